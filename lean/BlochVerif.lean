import BlochVerif.Util.Loops
import BlochVerif.Util.FloatFmt
import BlochVerif.Sim.Model
import BlochVerif.Sim.FloatInst
import BlochVerif.Sim.Qasm
import BlochVerif.Sim.Ops
import BlochVerif.Sim.SpecCore
import BlochVerif.Sim.CxProof
import BlochVerif.Sim.LoopLemmas
import BlochVerif.Sim.Complex
import BlochVerif.Sim.Norm
import BlochVerif.Sim.Gates
import BlochVerif.Sim.Measure
import BlochVerif.Sim.History
import BlochVerif.Sim.Tensor
import BlochVerif.Props.C01
import BlochVerif.Props.C02
import BlochVerif.Props.C03
import BlochVerif.Props.C04
import BlochVerif.Update.Model
import BlochVerif.Update.Proofs
import BlochVerif.Props.C20
import BlochVerif.Lex.Model
import BlochVerif.Lex.Proofs
import BlochVerif.Generated.Keywords
import BlochVerif.Props.C15
import BlochVerif.Loader.Model
import BlochVerif.Loader.Proofs
import BlochVerif.Props.C19
import BlochVerif.Parse.Ast
import BlochVerif.Parse.Model
import BlochVerif.Parse.PrattCore
import BlochVerif.Generated.BindingTable
import BlochVerif.Generated.Builtins
import BlochVerif.Generated.GateMatrices
import BlochVerif.Generated.QasmLines
import BlochVerif.Generated.UpdateConsts
import BlochVerif.Generated.Operators
import BlochVerif.Generated.ParserConsts
import BlochVerif.Lex.Operators
import BlochVerif.Props.C13
import BlochVerif.Props.C14
import BlochVerif.Eval.Value
import BlochVerif.Eval.Model
import BlochVerif.Props.C07
import BlochVerif.Obj.Model
import BlochVerif.Obj.Proofs
import BlochVerif.Props.C08
import BlochVerif.Props.C10
import BlochVerif.Gc.Model
import BlochVerif.Gc.Proofs
import BlochVerif.Gc.Sim
import BlochVerif.Life.Model
import BlochVerif.Life.Proofs
import BlochVerif.Life.Gc
import BlochVerif.Props.C11
import BlochVerif.Props.C12
import BlochVerif.Props.C18
import BlochVerif.Eval.Flags
import BlochVerif.Props.C05
import BlochVerif.Props.C06
import BlochVerif.Props.C09
import BlochVerif.Cli.Model
import BlochVerif.Props.C17
import BlochVerif.Sem.Compat
import BlochVerif.Props.C16
import BlochVerif.Sem.Scope
import BlochVerif.Eval.QubitBook
import BlochVerif.Eval.QubitBookProofs
import BlochVerif.Eval.Prims
import BlochVerif.Eval.Closed
import BlochVerif.Eval.Hoare
import BlochVerif.Eval.Control
import BlochVerif.Eval.Frame
import BlochVerif.Eval.FlagsAgree
import BlochVerif.Eval.OpsLog
import BlochVerif.Eval.Shape
import BlochVerif.Eval.GateCall
import BlochVerif.Sem.Decls
import BlochVerif.Sem.DeclsProofs
import BlochVerif.Sim.Replay
