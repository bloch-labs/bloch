import BlochVerif.Lex.Model
import BlochVerif.Generated.Operators
/-!
# The operator scanner is the source's `switch (c)`

`Generated/Operators.lean` is rewritten on every run from the `switch (c)` of `Lexer::scanToken`.  `scanOpBy` reads such a table
the way the switch reads its cases (first character; then the second characters in the order they are tried; else the
one-character token; a character with no case is `Unknown`).  That the hand-written `scanOp` of the model is that reading of
the regenerated table, for every character and every continuation, is `C15.operator_scanner_is_the_source_switch`; the
lemmas here are what its proof walks the `if` chain with.
-/
namespace BlochVerif.Lex

def scanOpBy (tbl : List (Char × List (Char × TokenType × List Char) × TokenType × List Char))
    (c : Char) (rest : List Char) : TokenType × List Char × List Char :=
  match tbl.find? (fun r => c == r.1) with
  | none => (.Unknown, [c], rest)
  | some (_, seconds, t1, txt1) =>
    match rest with
    | [] => (t1, txt1, rest)
    | x :: r =>
      match seconds.find? (fun s => x == s.1) with
      | some (_, t2, txt2) => (t2, txt2, r)
      | none => (t1, txt1, rest)

variable {c d s : Char} {rest : List Char} {t1 t2 : TokenType}
  {row : List (Char × TokenType × List Char) × TokenType × List Char}
  {tbl : List (Char × List (Char × TokenType × List Char) × TokenType × List Char)}

/-- one `case` of the switch: the model's `if c = d then a else b` against a table whose first row is for `d` -/
theorem ite_eq_scanOpBy_cons {a b : TokenType × List Char × List Char}
    (hb : b = scanOpBy tbl c rest) (ha : c = d → a = scanOpBy [(d, row)] d rest) :
    (if c = d then a else b) = scanOpBy ((d, row) :: tbl) c rest := by
  split
  next h => subst h; rw [ha rfl]; simp [scanOpBy]
  next h => rw [hb]; simp [scanOpBy, h]

/-! the three shapes a case of `scanOp` has, as rows -/

theorem scanOpBy_one : scanOpBy [(c, [], t1, [c])] c rest = (t1, [c], rest) := by
  cases rest <;> simp [scanOpBy]

theorem scanTwo_eq_row : scanTwo c s t2 t1 rest = scanOpBy [(c, [(s, t2, [c, s])], t1, [c])] c rest := by
  cases rest with
  | nil => simp [scanTwo, scanOpBy]
  | cons x r => by_cases h : x = s <;> simp [scanTwo, scanOpBy, h]

theorem scanMinus_eq_row : scanMinus rest =
    scanOpBy [('-', [('>', .Arrow, ['-', '>']), ('-', .MinusMinus, ['-', '-'])], .Minus, ['-'])] '-' rest := by
  cases rest with
  | nil => rfl
  | cons x r => by_cases h1 : x = '>' <;> by_cases h2 : x = '-' <;> simp_all [scanMinus, scanOpBy]

end BlochVerif.Lex
