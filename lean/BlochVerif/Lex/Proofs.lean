import BlochVerif.Lex.Model
/-!
# The lexer's specification and its proof (core-only)

The vocabulary of the specification (`posAfter`, `Triv`, `StartsToken`, `ScanOK`, `GoodOp`, `Lexed`), one `…_ok` lemma per
scanner, the theorem `tokenize_lossless` (C15), and the fuel lemma `tokenizeAux_fuel_irrelevant` that C13 rests on.
-/

/-- all there is to the `…_total` theorems of `Props/C13.lean` and `Props/C15.lean` -/
theorem Except.ok_or_error {ε α : Type} (x : Except ε α) : (∃ a, x = .ok a) ∨ (∃ e, x = .error e) := by
  cases x <;> simp

namespace BlochVerif.Lex

/-- **Independent definition of "position after a prefix"**: fold over the bytes, a newline starts
    the next line at column 1, any other byte advances the column. -/
def posAfter (p : Pos) (s : List Char) : Pos := s.foldl Pos.step p

theorem posAfter_append (p : Pos) (a b : List Char) :
    posAfter p (a ++ b) = posAfter (posAfter p a) b := List.foldl_append

theorem posAfter_cons (p : Pos) (c : Char) (s : List Char) :
    posAfter p (c :: s) = posAfter (p.step c) s := rfl

theorem step_ne_nl (p : Pos) (c : Char) (h : c ≠ '\n') : p.step c = p.adv := if_neg h

theorem advN_advN (p : Pos) (a b : Nat) : (p.advN a).advN b = p.advN (a + b) := by
  simp [Pos.advN]; omega

theorem advN_adv (p : Pos) (a : Nat) : (p.advN a).adv = p.advN (a + 1) := by
  simp [Pos.advN, Pos.adv]; omega

theorem posAfter_no_nl (p : Pos) (s : List Char) (h : '\n' ∉ s) : posAfter p s = p.advN s.length := by
  induction s generalizing p with
  | nil => rfl
  | cons c cs ih =>
    rw [List.mem_cons, not_or] at h
    rw [posAfter_cons, step_ne_nl p c (Ne.symm h.1), ih _ h.2]
    -- `p.adv` is `p.advN 1` by `rfl`
    exact (advN_advN p 1 cs.length).trans (by rw [Nat.add_comm]; rfl)

/-- after a newline the column counts the bytes since it, from 1, wherever the text started -/
theorem posAfter_col_after_newline (p : Pos) (a b : List Char) (hb : '\n' ∉ b) :
    (posAfter p (a ++ '\n' :: b)).col = 1 + b.length := by
  rw [posAfter_append, posAfter_cons, posAfter_no_nl _ b hb]
  rfl

theorem posAfter_line (p : Pos) (s : List Char) :
    (posAfter p s).line = p.line + s.count '\n' := by
  induction s generalizing p with
  | nil => rfl
  | cons c cs ih =>
    rw [posAfter_cons, ih, List.count_cons, Pos.step]
    split <;> simp_all [Pos.nl, Pos.adv] <;> omega

/-- `Triv false w`: `w` is whitespace and `//` comment text (after `//`, characters other than newline; a
    newline ends the comment).  `Triv true w`: `w` goes on from inside a comment.  `w` may end anywhere
    (`nil`), inside a comment too: nothing requires a comment to be complete. -/
inductive Triv : Bool → List Char → Prop
  | nil (m : Bool) : Triv m []
  | space {c : Char} {w : List Char} : isSpace c = true → Triv false w → Triv false (c :: w)
  | opn {w : List Char} : Triv true w → Triv false ('/' :: '/' :: w)
  | body {c : Char} {w : List Char} : c ≠ '\n' → Triv true w → Triv true (c :: w)
  | close {w : List Char} : Triv false w → Triv true ('\n' :: w)

/-- what remains after skipping trivia does not start with whitespace or `//` -/
def StartsToken (s : List Char) : Prop :=
  match s with
  | [] => True
  | [c] => isSpace c = false
  | c :: d :: _ => isSpace c = false ∧ ¬ (c = '/' ∧ d = '/')

theorem StartsToken.not_space {c : Char} {s : List Char} (h : StartsToken (c :: s)) :
    isSpace c = false := by
  cases s with
  | nil => exact h
  | cons d ds => exact h.1

theorem skipWsAux_spec (m : Bool) (s : List Char) (p : Pos) :
    ∃ w, s = w ++ (skipWsAux m s p).1 ∧ Triv m w ∧ (skipWsAux m s p).2 = posAfter p w ∧
      StartsToken (skipWsAux m s p).1 := by
  -- where `h3` is passed on as it is, the model's update of the position (`p.nl`, `p.adv.adv`, or `p.step c` itself) is
  -- `Pos.step` over the characters consumed by `rfl`; only for a comment character `c ≠ '\n'` it has to be said
  fun_induction skipWsAux m s p with
  | case1 m p => exact ⟨[], rfl, .nil m, rfl, trivial⟩
  | case2 cs p ih =>
    obtain ⟨w, h1, h2, h3, h4⟩ := ih
    exact ⟨'\n' :: w, congrArg _ h1, .close h2, h3, h4⟩
  | case3 c cs p hc ih =>
    obtain ⟨w, h1, h2, h3, h4⟩ := ih
    exact ⟨c :: w, congrArg _ h1, .body hc h2, by rw [h3, posAfter_cons, step_ne_nl p c hc], h4⟩
  | case4 c cs p hs ih =>
    obtain ⟨w, h1, h2, h3, h4⟩ := ih
    exact ⟨c :: w, congrArg _ h1, .space hs h2, h3, h4⟩
  | case5 p cs' hs ih =>
    obtain ⟨w, h1, h2, h3, h4⟩ := ih
    exact ⟨'/' :: '/' :: w, congrArg ('/' :: '/' :: ·) h1, .opn h2, h3, h4⟩
  | case6 c cs p hs hno =>
    refine ⟨[], rfl, .nil false, rfl, ?_⟩
    cases cs with
    | nil => simpa [StartsToken] using hs
    | cons d ds => exact ⟨by simpa using hs, fun ⟨hc, hd⟩ => hno ds hc (hd ▸ rfl)⟩

theorem skipWs_spec (s : List Char) (p : Pos) :
    ∃ w, s = w ++ (skipWs s p).1 ∧ Triv false w ∧ (skipWs s p).2 = posAfter p w ∧
      StartsToken (skipWs s p).1 :=
  skipWsAux_spec false s p

theorem spanP_not_mem (f : Char → Bool) (x : Char) (hx : f x = false) (s : List Char) :
    x ∉ (spanP f s).1 := fun h => by simp [spanP_all f s x h] at hx

/-- what a scan of `input` from `start` guarantees when it yields a token: the token's text is a
    non-empty prefix of the input, the token is stamped with `start`, and the position returned is
    the position after that text -/
def ScanOK (start : Pos) (input : List Char) : ScanRes → Prop
  | .ok (tok, rest', p') =>
    input = tok.text ++ rest' ∧ tok.text ≠ [] ∧ tok.pos = start ∧ p' = posAfter start tok.text
  | .error _ => True

/-- the common shape of every scan but strings and characters: the text has no newline and the
    position advances by its length -/
theorem ScanOK.of_prefix {start : Pos} {input text rest' : List Char} {n : Nat} {ty : TokenType}
    (h1 : input = text ++ rest') (h2 : text ≠ []) (h3 : '\n' ∉ text) (hn : n = text.length) :
    ScanOK start input (.ok (⟨ty, text, start⟩, rest', start.advN n)) :=
  ⟨h1, h2, rfl, by rw [hn, posAfter_no_nl _ _ h3]⟩

theorem scanNumber_ok (kw : List Char → Option TokenType) (start : Pos) (d : Char) (rest : List Char)
    (hd : isDigit d = true) : ScanOK start (d :: rest) (scanNumber kw start d rest) := by
  have hd' : '\n' ≠ d := by rintro rfl; cases hd
  have nl := spanP_not_mem isDigit '\n' rfl
  unfold scanNumber
  -- every returned position in the form `start.advN n` that `of_prefix` expects
  simp only [advN_advN, advN_adv]
  split
  · next r2 h =>
    split
    · next r4 h' =>
      exact .of_prefix (by simp [← h, ← h', spanP_append]) (by simp) (by simp [*, nl rest, nl r2])
        (by simp; omega)
    · trivial
  · next r2 h => exact .of_prefix (by simp [← h, spanP_append]) (by simp) (by simp [*, nl rest]) (by simp)
  · next r2 h => exact .of_prefix (by simp [← h, spanP_append]) (by simp) (by simp [*, nl rest]) (by simp)
  · next r2 h =>
    split
    · exact .of_prefix (by simp [← h, spanP_append]) (by simp) (by simp [*, nl rest]) (by simp)
    · trivial
  · exact .of_prefix (by simp [spanP_append]) (by simp) (by simp [*, nl rest]) rfl

theorem scanIdent_ok (kw : List Char → Option TokenType) (start : Pos) (c : Char) (rest : List Char)
    (hc : isIdentStart c = true) : ScanOK start (c :: rest) (scanIdent kw start c rest) := by
  have hc' : '\n' ≠ c := by rintro rfl; cases hc
  exact .of_prefix (by simp [spanP_append]) (by simp)
    (by simp [hc', spanP_not_mem isIdentPart '\n' rfl]) rfl

theorem stringBody_pos (s : List Char) (p : Pos) :
    (stringBody s p).2.2 = posAfter p (stringBody s p).1 := by
  induction s generalizing p with
  | nil => rfl
  | cons c cs ih => unfold stringBody; split <;> simp [ih, posAfter]

theorem stringBody_no_quote (s : List Char) (p : Pos) : '"' ∉ (stringBody s p).1 := by
  induction s generalizing p with
  | nil => exact List.not_mem_nil
  | cons c cs ih =>
    unfold stringBody
    split
    · exact List.not_mem_nil
    · exact List.not_mem_cons_of_ne_of_not_mem (Ne.symm ‹_›) (ih _)

theorem scanString_ok (start : Pos) (rest : List Char) :
    ScanOK start ('"' :: rest) (scanString start start.adv rest) := by
  unfold scanString
  simp only
  split
  · next r2 h =>
    refine ⟨by simp [← h, stringBody_append], by simp, rfl, ?_⟩
    rw [stringBody_pos, List.cons_append, posAfter_cons, posAfter_append]
    rfl  -- the two quotes are no newlines: `Pos.step` on them is `adv`, by evaluation
  · trivial

theorem scanChar_ok (start : Pos) (rest : List Char) :
    ScanOK start ('\'' :: rest) (scanChar start start.adv rest) := by
  unfold scanChar
  split
  · trivial
  · split
    · exact ⟨rfl, by simp, rfl, rfl⟩
    · trivial

/-- the shape of every `scanOp` result: a non-empty prefix of the input without newline -/
def GoodOp (c : Char) (rest : List Char) (r : TokenType × List Char × List Char) : Prop :=
  c :: rest = r.2.1 ++ r.2.2 ∧ r.2.1 ≠ [] ∧ '\n' ∉ r.2.1

section
variable {c : Char} {rest : List Char}

theorem GoodOp.ite {p : Prop} [Decidable p] {a b : TokenType × List Char × List Char}
    (ha : p → GoodOp c rest a) (hb : GoodOp c rest b) : GoodOp c rest (if p then a else b) := by
  split
  · exact ha ‹_›
  · exact hb

theorem GoodOp.one (hc : '\n' ≠ c) (t : TokenType) : GoodOp c rest (t, [c], rest) :=
  ⟨rfl, by simp, by simp [hc]⟩

theorem GoodOp.two (hc : '\n' ≠ c) {second : Char} (hs : '\n' ≠ second) (t2 t1 : TokenType) :
    GoodOp c rest (scanTwo c second t2 t1 rest) := by
  unfold scanTwo
  split
  · split
    · next h => exact ⟨by rw [h]; rfl, by simp, by simp [hc, hs]⟩
    · exact .one hc t1
  · exact .one hc t1

theorem GoodOp.minus : GoodOp '-' rest (scanMinus rest) := by
  unfold scanMinus
  split
  · exact ⟨rfl, by simp, by simp⟩
  · exact ⟨rfl, by simp, by simp⟩
  · exact .one (by simp) _

theorem scanOp_spec (hc : isSpace c = false) : GoodOp c rest (scanOp c rest) := by
  have hc' : '\n' ≠ c := by rintro rfl; cases hc
  unfold scanOp
  -- every branch of the `if` chain is a one-character token, a `scanTwo`, or, under `c = '-'`, `scanMinus`
  repeat' first
    | apply GoodOp.ite
    | exact fun _ => .one hc' _
    | exact fun _ => .two hc' (by decide) _ _
    | exact fun h => h ▸ .minus
    | exact .one hc' _

end

theorem scanToken_ok (kw : List Char → Option TokenType) (start : Pos) (c : Char) (rest : List Char)
    (hc : isSpace c = false) : ScanOK start (c :: rest) (scanToken kw start c rest) := by
  unfold scanToken
  split
  · exact scanNumber_ok kw start c rest ‹_›
  split
  · exact scanIdent_ok kw start c rest ‹_›
  split
  · next h => exact h ▸ scanString_ok start rest
  split
  · next h => exact h ▸ scanChar_ok start rest
  obtain ⟨h1, h2, h3⟩ := scanOp_spec (rest := rest) hc
  exact .of_prefix h1 h2 h3 rfl

/-- **The lossless/position specification.** `Lexed p src toks`: starting at position `p`, the
    source `src` is `w₀ ++ t₁ ++ w₁ ++ … ++ tₙ ++ wₙ` where the `tᵢ` are the token texts in order,
    every `wᵢ` satisfies `Triv false` (whitespace and `//` comment text; a `wᵢ` need not be maximal, nor a comment
    in it complete), each token is stamped with the position of its first character (`posAfter` of everything
    before it) and the final `Eof` token with the end position. -/
inductive Lexed : Pos → List Char → List Token → Prop
  | eof {p : Pos} {w : List Char} : Triv false w → Lexed p w [⟨.Eof, [], posAfter p w⟩]
  | tok {p : Pos} {w : List Char} {t : Token} {rest : List Char} {ts : List Token} :
      Triv false w → t.text ≠ [] → t.pos = posAfter p w →
      Lexed (posAfter p (w ++ t.text)) rest ts →
      Lexed p (w ++ t.text ++ rest) (t :: ts)

/-- the clause of `tokenizeAux` for `s = []` is the `[]` case below, since `skipWs [] p = ([], p)` -/
theorem tokenizeAux_succ (kw : List Char → Option TokenType) (fuel : Nat) (s : List Char) (p : Pos)
    (acc : List Token) :
    tokenizeAux kw (fuel + 1) s p acc =
      match (skipWs s p).1 with
      | [] => .ok (acc.reverse ++ [⟨.Eof, [], (skipWs s p).2⟩])
      | c :: rest =>
        match scanToken kw (skipWs s p).2 c rest with
        | .error e => .error e
        | .ok (tok, rest', p') => tokenizeAux kw fuel rest' p' (tok :: acc) := by
  cases s <;> rfl

theorem scan_after_skip {kw : List Char → Option TokenType} {s : List Char} {p : Pos} {c : Char}
    {rest : List Char} {tok : Token} {rest' : List Char} {p' : Pos} (hw : (skipWs s p).1 = c :: rest)
    (hsc : scanToken kw (skipWs s p).2 c rest = .ok (tok, rest', p')) :
    ∃ w, s = w ++ tok.text ++ rest' ∧ Triv false w ∧ tok.text ≠ [] ∧ tok.pos = posAfter p w ∧
      p' = posAfter p (w ++ tok.text) ∧ rest'.length < s.length := by
  obtain ⟨w, h1, h2, h3, h4⟩ := skipWs_spec s p
  rw [hw] at h1 h4
  have ok := scanToken_ok kw (skipWs s p).2 c rest h4.not_space
  rw [hsc] at ok
  obtain ⟨k1, k2, k3, k4⟩ := ok
  refine ⟨w, by rw [h1, k1, List.append_assoc], h2, k2, by rw [k3, h3], by rw [k4, h3, posAfter_append], ?_⟩
  have := List.length_pos_iff.mpr k2
  rw [h1, k1]; simp; omega

theorem tokenizeAux_spec (kw : List Char → Option TokenType) (fuel : Nat) (s : List Char) (p : Pos)
    (acc : List Token) (toks : List Token) (hf : s.length < fuel)
    (h : tokenizeAux kw fuel s p acc = .ok toks) :
    ∃ ts, toks = acc.reverse ++ ts ∧ Lexed p s ts := by
  induction fuel generalizing s p acc with
  | zero => omega
  | succ f ih =>
    rw [tokenizeAux_succ] at h
    split at h
    · next hw =>
      obtain ⟨w, h1, h2, h3, -⟩ := skipWs_spec s p
      rw [hw, List.append_nil] at h1
      injection h with h
      exact ⟨_, h.symm, by rw [h3, h1]; exact .eof h2⟩
    · next c rest hw =>
      split at h
      · cases h
      · next tok rest' p' hsc =>
        obtain ⟨w, h1, h2, h3, h4, h5, h6⟩ := scan_after_skip hw hsc
        obtain ⟨ts, hts1, hts2⟩ := ih rest' p' (tok :: acc) (by omega) h
        exact ⟨tok :: ts, by rw [hts1]; simp, h1 ▸ .tok h2 h3 h4 (h5 ▸ hts2)⟩

/-- **C15.** Whatever the keyword table: if the lexer accepts `src`, the tokens it returns
    reproduce `src` exactly except for stretches of whitespace and `//` comment text (`Triv`, which does not ask
    that a comment be complete), and every token (including multi-line strings and the final `Eof`) is reported
    at the position of its first character. -/
theorem tokenize_lossless (kw : List Char → Option TokenType) (src : List Char) (toks : List Token)
    (h : tokenize kw src = .ok toks) : Lexed ⟨1, 1⟩ src toks := by
  obtain ⟨ts, h1, h2⟩ := tokenizeAux_spec kw (src.length + 1) src ⟨1, 1⟩ [] toks (by omega) h
  exact h1 ▸ h2

/-- an iteration that goes on has consumed at least one byte (last conjunct of `scan_after_skip`), so
    `s.length < fuel` is kept and the `fuel = 0` clause is never reached -/
theorem tokenizeAux_fuel_irrelevant (kw : List Char → Option TokenType) (f1 f2 : Nat) (s : List Char)
    (p : Pos) (acc : List Token) (h1 : s.length < f1) (h2 : s.length < f2) :
    tokenizeAux kw f1 s p acc = tokenizeAux kw f2 s p acc := by
  induction f1 generalizing f2 s p acc with
  | zero => omega
  | succ n ih =>
    obtain ⟨m, rfl⟩ : ∃ m, f2 = m + 1 := ⟨f2 - 1, by omega⟩
    rw [tokenizeAux_succ, tokenizeAux_succ]
    split
    · rfl
    · next c rest hw =>
      split
      · rfl
      · next tok rest' p' hsc =>
        obtain ⟨w, -, -, -, -, -, h6⟩ := scan_after_skip hw hsc
        exact ih m rest' p' _ (by omega) (by omega)

end BlochVerif.Lex
