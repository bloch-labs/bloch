/-!
# Model of `src/bloch/compiler/lexer/lexer.cpp`

Source bytes are `Char`s with code points 0–255 (the driver maps bytes to code points); the
character classes are the C-locale `<cctype>` ones.  Each scanner mirrors its C++ namesake:
`advance` bumps the column, newlines are handled at exactly the three places the C++ handles them
(`skipWhitespace`, `scanString`, `scanChar`), and a token is stamped with the position captured
when `scanToken` starts.  Core-only.
-/
namespace BlochVerif.Lex

inductive TokenType where
  | Identifier | IntegerLiteral | FloatLiteral | LongLiteral | BitLiteral | StringLiteral | CharLiteral
  | True | False
  | Null | Int | Long | Float | String | Char | Qubit | Bit | Boolean | Void | Function | Return
  | If | Else | For | While | Measure | Final | Reset | Default
  | At | Quantum | Tracked | Shots
  | Class | Public | Private | Protected | Static | Extends | Abstract | Virtual | Override | Super
  | This | Import | Package | New | Constructor | Destructor | Destroy
  | Equals | Plus | PlusPlus | Minus | MinusMinus | Star | Slash | Percent | Greater | GreaterEqual
  | Less | LessEqual | EqualEqual | Bang | BangEqual | Ampersand | AmpersandAmpersand | Pipe
  | PipePipe | Caret | Tilde | Question | Colon | Dot | Semicolon | Comma | Arrow
  | LParen | RParen | LBrace | RBrace | LBracket | RBracket
  | Echo | Eof | Unknown
deriving Repr, DecidableEq, Inhabited

structure Pos where
  line : Nat
  col : Nat
deriving Repr, DecidableEq, Inhabited

structure Token where
  type : TokenType
  text : List Char
  pos : Pos
deriving Repr, DecidableEq, Inhabited

inductive LexErrKind where
  | floatNoF | badBit | unterminatedString | unterminatedChar
deriving Repr, DecidableEq

structure LexError where
  kind : LexErrKind
  pos : Pos
deriving Repr, DecidableEq

/-! ## C-locale character classes -/
def isSpace (c : Char) : Bool := c.toNat = 32 || (9 ≤ c.toNat && c.toNat ≤ 13)
def isDigit (c : Char) : Bool := 48 ≤ c.toNat && c.toNat ≤ 57
def isAlpha (c : Char) : Bool := (65 ≤ c.toNat && c.toNat ≤ 90) || (97 ≤ c.toNat && c.toNat ≤ 122)
def isAlnum (c : Char) : Bool := isAlpha c || isDigit c
def isIdentStart (c : Char) : Bool := isAlpha c || c = '_'
def isIdentPart (c : Char) : Bool := isAlnum c || c = '_'

/-- `advance()`: one more column -/
def Pos.adv (p : Pos) : Pos := ⟨p.line, p.col + 1⟩
/-- consuming a newline where the C++ handles it: next line, column 1 -/
def Pos.nl (p : Pos) : Pos := ⟨p.line + 1, 1⟩
/-- consume `c` at a newline-aware site -/
def Pos.step (p : Pos) (c : Char) : Pos := if c = '\n' then p.nl else p.adv
def Pos.advN (p : Pos) (n : Nat) : Pos := ⟨p.line, p.col + n⟩

/-- `skipWhitespace` with `skipComment` folded in: in comment mode everything up to the newline
    is dropped; the newline itself is then consumed as whitespace (next line, column 1), exactly as
    the C++ loop does after `skipComment` returns. -/
def skipWsAux : Bool → List Char → Pos → List Char × Pos
  | _, [], p => ([], p)
  | true, c :: cs, p => if c = '\n' then skipWsAux false cs p.nl else skipWsAux true cs p.adv
  | false, c :: cs, p =>
    if isSpace c then skipWsAux false cs (p.step c)
    else match c, cs with
      | '/', '/' :: cs' => skipWsAux true cs' p.adv.adv
      | _, _ => (c :: cs, p)

def skipWs (s : List Char) (p : Pos) : List Char × Pos := skipWsAux false s p

/-- longest prefix satisfying `f`, and the rest -/
def spanP (f : Char → Bool) : List Char → List Char × List Char
  | [] => ([], [])
  | c :: cs => if f c then ((c :: (spanP f cs).1), (spanP f cs).2) else ([], c :: cs)

theorem spanP_append (f : Char → Bool) (s : List Char) : (spanP f s).1 ++ (spanP f s).2 = s := by
  induction s with
  | nil => rfl
  | cons c cs ih => unfold spanP; split <;> simp [ih]

theorem spanP_all (f : Char → Bool) (s : List Char) : ∀ c ∈ (spanP f s).1, f c = true := by
  induction s with
  | nil => simp [spanP]
  | cons c cs ih => unfold spanP; split <;> simp_all

theorem spanP_len (f : Char → Bool) (s : List Char) :
    (spanP f s).1.length + (spanP f s).2.length = s.length := by
  rw [← List.length_append, spanP_append]

/-- result of scanning one token: the token, the remaining input, the position after it -/
abbrev ScanRes := Except LexError (Token × List Char × Pos)

/-- `scanNumber`; `d` is the first digit (already consumed), `start` the token start -/
def scanNumber (keyword : List Char → Option TokenType) (start : Pos) (d : Char) (rest : List Char) : ScanRes :=
  let _ := keyword
  let ds := (spanP isDigit rest).1
  let r1 := (spanP isDigit rest).2
  let intPart := d :: ds
  let p1 := start.advN intPart.length
  match r1 with
  | '.' :: r2 =>
    let fs := (spanP isDigit r2).1
    let r3 := (spanP isDigit r2).2
    let p3 := p1.advN (1 + fs.length)
    match r3 with
    | 'f' :: r4 => .ok (⟨.FloatLiteral, intPart ++ '.' :: fs ++ ['f'], start⟩, r4, p3.adv)
    | _ => .error ⟨.floatNoF, p3⟩
  | 'f' :: r2 => .ok (⟨.FloatLiteral, intPart ++ ['f'], start⟩, r2, p1.adv)
  | 'L' :: r2 => .ok (⟨.LongLiteral, intPart ++ ['L'], start⟩, r2, p1.adv)
  | 'b' :: r2 =>
    if intPart = ['0'] ∨ intPart = ['1'] then .ok (⟨.BitLiteral, intPart ++ ['b'], start⟩, r2, p1.adv)
    else .error ⟨.badBit, p1⟩
  | _ => .ok (⟨.IntegerLiteral, intPart, start⟩, r1, p1)

/-- `scanIdentifierOrKeyword` -/
def scanIdent (keyword : List Char → Option TokenType) (start : Pos) (c : Char) (rest : List Char) : ScanRes :=
  let body := (spanP isIdentPart rest).1
  let r1 := (spanP isIdentPart rest).2
  let text := c :: body
  let ty := match keyword text with | some t => t | none => .Identifier
  .ok (⟨ty, text, start⟩, r1, start.advN text.length)

/-- the `while (... peek() != '"')` loop of `scanString`: consumed characters, rest, position -/
def stringBody : List Char → Pos → List Char × List Char × Pos
  | [], p => ([], [], p)
  | c :: cs, p =>
    if c = '"' then ([], c :: cs, p)
    else
      let r := stringBody cs (p.step c)
      (c :: r.1, r.2.1, r.2.2)

theorem stringBody_append (s : List Char) (p : Pos) :
    (stringBody s p).1 ++ (stringBody s p).2.1 = s := by
  induction s generalizing p with
  | nil => rfl
  | cons c cs ih => unfold stringBody; split <;> simp [ih]

theorem stringBody_len (s : List Char) (p : Pos) :
    (stringBody s p).1.length + (stringBody s p).2.1.length = s.length := by
  rw [← List.length_append, stringBody_append]

/-- `scanString`; the opening quote is consumed, `p` is the position after it -/
def scanString (start p : Pos) (rest : List Char) : ScanRes :=
  let r := stringBody rest p
  match r.2.1 with
  | '"' :: r2 => .ok (⟨.StringLiteral, '"' :: r.1 ++ ['"'], start⟩, r2, r.2.2.adv)
  | _ => .error ⟨.unterminatedString, r.2.2⟩

/-- `scanChar`; the opening quote is consumed, `p` is the position after it -/
def scanChar (start p : Pos) (rest : List Char) : ScanRes :=
  match rest with
  | [] => .error ⟨.unterminatedChar, p⟩
  | x :: r1 =>
    match r1 with
    | '\'' :: r2 => .ok (⟨.CharLiteral, ['\'', x, '\''], start⟩, r2, (p.step x).adv)
    | _ => .error ⟨.unterminatedChar, p.step x⟩

/-- `match(second) ? two-character token : one-character token` -/
def scanTwo (c second : Char) (t2 t1 : TokenType) (rest : List Char) : TokenType × List Char × List Char :=
  match rest with
  | x :: r => if x = second then (t2, [c, second], r) else (t1, [c], rest)
  | [] => (t1, [c], rest)

/-- the three tokens that start with `-` -/
def scanMinus (rest : List Char) : TokenType × List Char × List Char :=
  match rest with
  | '>' :: r => (.Arrow, ['-', '>'], r)
  | '-' :: r => (.MinusMinus, ['-', '-'], r)
  | _ => (.Minus, ['-'], rest)

/-- one- and two-character operators: `(type, text, rest)` -/
def scanOp (c : Char) (rest : List Char) : TokenType × List Char × List Char :=
  if c = '=' then scanTwo c '=' .EqualEqual .Equals rest
  else if c = '!' then scanTwo c '=' .BangEqual .Bang rest
  else if c = '+' then scanTwo c '+' .PlusPlus .Plus rest
  else if c = '&' then scanTwo c '&' .AmpersandAmpersand .Ampersand rest
  else if c = '|' then scanTwo c '|' .PipePipe .Pipe rest
  else if c = '^' then (.Caret, [c], rest)
  else if c = '~' then (.Tilde, [c], rest)
  else if c = '-' then scanMinus rest
  else if c = '*' then (.Star, [c], rest)
  else if c = '/' then (.Slash, [c], rest)
  else if c = '%' then (.Percent, [c], rest)
  else if c = '>' then scanTwo c '=' .GreaterEqual .Greater rest
  else if c = '<' then scanTwo c '=' .LessEqual .Less rest
  else if c = '?' then (.Question, [c], rest)
  else if c = ':' then (.Colon, [c], rest)
  else if c = '.' then (.Dot, [c], rest)
  else if c = ';' then (.Semicolon, [c], rest)
  else if c = ',' then (.Comma, [c], rest)
  else if c = '@' then (.At, [c], rest)
  else if c = '(' then (.LParen, [c], rest)
  else if c = ')' then (.RParen, [c], rest)
  else if c = '{' then (.LBrace, [c], rest)
  else if c = '}' then (.RBrace, [c], rest)
  else if c = '[' then (.LBracket, [c], rest)
  else if c = ']' then (.RBracket, [c], rest)
  else (.Unknown, [c], rest)

/-- `scanToken` on `c :: rest` at position `start` -/
def scanToken (keyword : List Char → Option TokenType) (start : Pos) (c : Char) (rest : List Char) : ScanRes :=
  if isDigit c then scanNumber keyword start c rest
  else if isIdentStart c then scanIdent keyword start c rest
  else if c = '"' then scanString start start.adv rest
  else if c = '\'' then scanChar start start.adv rest
  else
    let r := scanOp c rest
    .ok (⟨r.1, r.2.1, start⟩, r.2.2, start.advN r.2.1.length)

/-- the `tokenize` loop, with explicit fuel (one unit per iteration; `src.length + 1` suffices) -/
def tokenizeAux (keyword : List Char → Option TokenType) :
    Nat → List Char → Pos → List Token → Except LexError (List Token)
  | 0, _, p, acc => .ok (acc.reverse ++ [⟨.Eof, [], p⟩])     -- unreachable with enough fuel
  | fuel + 1, s, p, acc =>
    match s with
    | [] => .ok (acc.reverse ++ [⟨.Eof, [], p⟩])
    | _ =>
      let w := skipWs s p
      match w.1 with
      | [] => .ok (acc.reverse ++ [⟨.Eof, [], w.2⟩])
      | c :: rest =>
        match scanToken keyword w.2 c rest with
        | .error e => .error e
        | .ok (tok, rest', p') => tokenizeAux keyword fuel rest' p' (tok :: acc)

def tokenize (keyword : List Char → Option TokenType) (src : List Char) : Except LexError (List Token) :=
  tokenizeAux keyword (src.length + 1) src ⟨1, 1⟩ []

end BlochVerif.Lex
