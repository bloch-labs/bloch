import BlochVerif.Loader.Model
/-!
A successful `loadModule` keeps the invariant `Inv`, leaves the stack as it found it and has its file in `order`
(`loadModule_spec`: induction on the fuel, with the two import loops at the smaller fuel in between).  Core-only.
-/
namespace BlochVerif.Loader

/-- `t` occurs strictly before `p` in `l` -/
def Before (t p : Path) (l : List Path) : Prop := ∃ l1 l2, l = l1 ++ p :: l2 ∧ t ∈ l1

theorem Before.append {t p : Path} {l : List Path} (h : Before t p l) (x : List Path) :
    Before t p (l ++ x) := by
  obtain ⟨l1, l2, e, m⟩ := h
  exact ⟨l1, l2 ++ x, by rw [e]; simp, m⟩

/-- the files one import of `self` resolves to, i.e. what is loaded before `self` is filed (a wildcard import
skips `self`, as `loadTargets` does) -/
def importTargets (env : Env) (self : Path) (imp : Import) : List Path :=
  if imp.wildcard then (resolvePackageModules env imp.pkg (parentDir self)).filter (· ≠ self)
  else match imp.symbol with
    | some sym => (resolveImportPath env (imp.pkg ++ [sym]) (parentDir self)).toList
    | none => []

def moduleTargets (env : Env) (self : Path) (m : Module) : List Path :=
  m.imports.flatMap (importTargets env self)

/-- `disj`: a module on the stack is not filed yet. -/
structure Inv (env : Env) (st : LState) : Prop where
  nodup : st.order.Nodup
  cacheKeys : ∀ p, (st.cached p).isSome ↔ p ∈ st.order
  depsFirst : ∀ p ∈ st.order, ∀ m, env.fs.lookup p = some (.file (some m)) →
    ∀ t ∈ moduleTargets env p m, Before t p st.order
  disj : ∀ p ∈ st.stack, p ∉ st.order

theorem Inv_init (env : Env) : Inv env {} :=
  ⟨List.nodup_nil, by intro p; simp [LState.cached], by intro p hp; simp at hp,
   by intro p hp; simp at hp⟩

theorem cached_push (st : LState) (p : Path) (m : Module) (o s : List Path) (q : Path) :
    ({ cache := st.cache ++ [(p, m)], order := o, stack := s } : LState).cached q =
      (st.cached q).or (if p = q then some m else none) := by
  simp only [LState.cached, List.find?_append]
  cases st.cache.find? (fun e => e.1 == q) with
  | some x => rfl
  | none => by_cases h : p = q <;> simp [h]

/-- a successful stretch of loading from `st` to `st'` (one `loadModule`, or one of the loops) that was asked for
the files `ts` -/
structure Loads (env : Env) (ts : List Path) (st st' : LState) : Prop where
  inv : Inv env st'
  stack : st'.stack = st.stack
  order : st.order ⊆ st'.order
  loaded : ts ⊆ st'.order

theorem Loads.refl {env : Env} {st : LState} (hi : Inv env st) : Loads env [] st st :=
  ⟨hi, rfl, List.Subset.refl _, List.nil_subset _⟩

theorem Loads.trans {env : Env} {xs ys : List Path} {a b c : LState} (h1 : Loads env xs a b) (h2 : Loads env ys b c) :
    Loads env (xs ++ ys) a c :=
  ⟨h2.inv, h2.stack.trans h1.stack, h1.order.trans h2.order,
    List.append_subset.mpr ⟨h1.loaded.trans h2.order, h2.loaded⟩⟩

/-- the induction hypothesis of `loadModule_spec` at one fuel, as the lemmas about the two loops take it -/
def ModSpec (env : Env) (fuel : Nat) : Prop :=
  ∀ {path st st'}, Inv env st → loadModule env fuel path st = .ok st' → Loads env [path] st st'

theorem loadTargets_spec (env : Env) (fuel : Nat) (hM : ModSpec env fuel) (self : Path)
    (pkg : List String) (ts : List Path) (st st' : LState) (hi : Inv env st)
    (h : loadTargets env fuel self pkg ts st = .ok st') : Loads env (ts.filter (· ≠ self)) st st' := by
  induction ts generalizing st with
  | nil => unfold loadTargets at h; cases h; exact Loads.refl hi
  | cons t ts ih =>
    unfold loadTargets at h
    split at h
    next hs => rw [List.filter_cons_of_neg (by simpa using hs)]; exact ih st hi h
    next hs =>
      rw [List.filter_cons_of_pos (by simpa using hs)]
      split at h
      next => cases h
      next st1 hl =>
        have l1 := hM hi hl
        split at h
        · exact l1.trans (ih st1 l1.inv h)
        · cases h

theorem loadImports_spec (env : Env) (fuel : Nat) (hM : ModSpec env fuel) (self : Path)
    (imps : List Import) (st st' : LState) (hi : Inv env st)
    (h : loadImports env fuel self imps st = .ok st') :
    Loads env (imps.flatMap (importTargets env self)) st st' := by
  induction imps generalizing st with
  | nil => unfold loadImports at h; cases h; exact Loads.refl hi
  | cons imp rest ih =>
    rw [List.flatMap_cons, importTargets]
    unfold loadImports at h
    split at h
    next hw =>
      rw [if_pos hw]
      split at h
      next => cases h
      next =>
        split at h
        next => cases h
        next st1 hl =>
          have l1 := loadTargets_spec env fuel hM self imp.pkg _ st st1 hi hl
          exact l1.trans (ih st1 l1.inv h)
    next hw =>
      rw [if_neg hw]
      split at h
      next sym hsym =>
        split at h
        next => cases h
        next target hr =>
          simp only [hsym, hr, Option.toList_some]
          split at h
          next => cases h
          next st1 hl =>
            have l1 := hM hi hl
            split at h
            · exact l1.trans (ih st1 l1.inv h)
            · cases h
      next => cases h

/-- `Inv.disj` is what keeps `order` duplicate-free when `loadModule` appends its file: the file is on the stack while its
imports are loaded, and asking for a stacked module is the cycle error, so none of them has filed it. -/
theorem loadModule_spec (env : Env) (fuel : Nat) : ModSpec env fuel := by
  induction fuel with
  | zero => intro path st st' _ h; unfold loadModule at h; cases h
  | succ f ih =>
    intro path st st' hi h
    unfold loadModule at h
    split at h
    · cases h
    rename_i hstk
    split at h
    · -- already loaded: the cache knows `path`, so it is filed
      rename_i hc
      cases h
      refine ⟨hi, rfl, List.Subset.refl _, fun t ht => ?_⟩
      rw [List.mem_singleton.mp ht]
      exact (hi.cacheKeys path).mp hc
    rename_i hc
    split at h
    next m hlk =>
      simp only at h
      split at h
      · cases h
      rename_i st2 hl
      cases h
      have hpns : path ∉ st.stack := fun hm => hstk (List.contains_iff_mem.mpr hm)
      have hnotin : path ∉ st.order := fun hm => hc ((hi.cacheKeys path).mpr hm)
      have hi1 : Inv env { st with stack := st.stack ++ [path] } :=
        ⟨hi.nodup, hi.cacheKeys, hi.depsFirst, fun p hp =>
          (List.mem_append.mp hp).elim (hi.disj p) (fun e => List.mem_singleton.mp e ▸ hnotin)⟩
      obtain ⟨i2, hstk2, o2, m2⟩ := loadImports_spec env f ih path m.imports _ st2 hi1 hl
      replace hstk2 : st2.stack = st.stack ++ [path] := hstk2
      have hin2 : path ∉ st2.order := i2.disj path (by rw [hstk2]; simp)
      refine ⟨⟨?_, ?_, ?_, ?_⟩, ?_, fun p hp => List.mem_append_left _ (o2 hp), by simp⟩
      · exact List.nodup_append.mpr ⟨i2.nodup, by simp, fun a ha b hb e =>
          hin2 (List.mem_singleton.mp hb ▸ e ▸ ha)⟩
      · intro p
        rw [cached_push, Option.isSome_or, List.mem_append, List.mem_singleton, ← i2.cacheKeys p]
        by_cases hp : path = p
        · simp [hp]
        · simp [hp, Ne.symm hp]
      · intro p hp m' hm' t ht
        rcases List.mem_append.mp hp with hp | hp
        · exact (i2.depsFirst p hp m' hm' t ht).append _
        · -- the module just filed: the loop over its imports has loaded every target
          cases List.mem_singleton.mp hp
          cases hlk.symm.trans hm'
          exact ⟨st2.order, [], by simp, m2 ht⟩
      · intro p hp
        rw [show st2.stack.dropLast = st.stack by rw [hstk2, List.dropLast_concat]] at hp
        have := i2.disj p (by rw [hstk2]; exact List.mem_append_left _ hp)
        simp only [List.mem_append, List.mem_singleton, not_or]
        exact ⟨this, fun e => hpns (e ▸ hp)⟩
      · show st2.stack.dropLast = st.stack
        rw [hstk2, List.dropLast_concat]
    next => cases h
    next => cases h

end BlochVerif.Loader
