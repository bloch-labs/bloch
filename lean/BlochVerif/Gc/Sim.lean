import BlochVerif.Gc.Proofs
/-! The mutator cannot tell a collected heap from an uncollected one: a simulation between a run with
collections at arbitrary boundaries and the run with none. -/
namespace BlochVerif.Gc

theorem reach_mono_roots {h : Heap} {roots roots' : List Nat} (hsub : ∀ r ∈ roots', Reach h roots r) :
    ∀ i, Reach h roots' i → Reach h roots i := by
  intro i hi
  induction hi with
  | root hr => exact hsub _ hr
  | step _ hs ih => exact Reach.step ih hs

theorem succs_congr {h1 h2 : Heap} {x : Nat} (he : h1[x]? = h2[x]?) : succs h1 x = succs h2 x := by
  unfold succs; rw [he]

theorem reach_transfer {h1 h2 : Heap} {roots : List Nat}
    (hag : ∀ i, Reach h2 roots i → h1[i]? = h2[i]?) : ∀ i, Reach h2 roots i → Reach h1 roots i := by
  intro i hi
  induction hi with
  | root hr => exact Reach.root hr
  | step hx hs ih => exact Reach.step ih (by rw [succs_congr (hag _ hx)]; exact hs)

theorem reach_lt {h : Heap} {roots : List Nat} (hwf : WFHeap h) (hr : ∀ r ∈ roots, r < h.length) :
    ∀ i, Reach h roots i → i < h.length := by
  intro i hi
  induction hi with
  | root hr' => exact hr _ hr'
  | step _ hs _ => exact hwf _ _ hs

theorem reach_field {h : Heap} {R : List Nat} {x y : Nat} {o : Obj} (hx : Reach h R x) (ho : h[x]? = some o)
    (hy : y ∈ o.a.toList ++ o.b.toList) : Reach h R y :=
  Reach.step hx (by unfold succs; rw [ho]; exact hy)

theorem succs_set_other (h : Heap) (x x' : Nat) (o : Obj) (hne : x' ≠ x) : succs (h.set x o) x' = succs h x' := by
  unfold succs; rw [List.getElem?_set_ne (Ne.symm hne)]

theorem succs_set_self (h : Heap) (x : Nat) (o : Obj) (hx : x < h.length) :
    succs (h.set x o) x = o.a.toList ++ o.b.toList := by
  unfold succs; rw [List.getElem?_set_self hx]

theorem succs_append_old (h : Heap) (o : Obj) (x : Nat) (hx : x < h.length) : succs (h ++ [o]) x = succs h x := by
  unfold succs; rw [List.getElem?_append_left hx]

theorem succs_append_new (h : Heap) (o : Obj) : succs (h ++ [o]) h.length = o.a.toList ++ o.b.toList := by
  unfold succs; simp

theorem mem_succs_set {h : Heap} {x z y : Nat} {o : Obj} (hy : y ∈ succs (h.set x o) z) :
    y ∈ succs h z ∨ y ∈ o.a.toList ++ o.b.toList := by
  by_cases hzx : z = x
  · by_cases hx : x < h.length
    · rw [hzx, succs_set_self h x o hx] at hy; exact Or.inr hy
    · rw [List.set_eq_of_length_le (Nat.le_of_not_lt hx)] at hy; exact Or.inl hy
  · rw [succs_set_other h x z o hzx] at hy; exact Or.inl hy

theorem mem_succs_append {h : Heap} {z y : Nat} {o : Obj} (hy : y ∈ succs (h ++ [o]) z) :
    y ∈ succs h z ∨ y ∈ o.a.toList ++ o.b.toList := by
  rcases Nat.lt_trichotomy z h.length with hz | hz | hz
  · rw [succs_append_old h o z hz] at hy; exact Or.inl hy
  · rw [hz, succs_append_new] at hy; exact Or.inr hy
  · rw [succs, List.getElem?_eq_none (by simp; omega)] at hy; cases hy

theorem succs_put_sub (o : Obj) (f : Fld) (v : Option Nat) (y : Nat)
    (hy : y ∈ (o.put f v).a.toList ++ (o.put f v).b.toList) :
    y ∈ o.a.toList ++ o.b.toList ∨ v = some y := by
  cases f <;> simp only [Obj.put, List.mem_append, Option.mem_toList] at hy ⊢
  · rcases hy with h1 | h1
    · right; exact h1
    · left; right; exact h1
  · rcases hy with h1 | h1
    · left; left; exact h1
    · right; exact h1

/-! ### two heaps that agree on everything in use

`α` is the type of objects, seen as collector objects through `view` (`Obj` itself here, objects with a reference count
in `Life/Gc.lean`); `R` is what counts as a root.  `h1` is the heap of the run with collections, `h2` that of the run
with none, and reachability is taken in `h2`. -/

section
variable {α : Type} {view : α → Obj} {R : List Nat} {h1 h2 : List α}

variable (view) in
structure HSim (R : List Nat) (h1 h2 : List α) : Prop where
  len : h1.length = h2.length
  agree : ∀ i, Reach (h2.map view) R i → h1[i]? = h2[i]?
  wf1 : WFHeap (h1.map view)
  wf2 : WFHeap (h2.map view)
  valid : ∀ r ∈ R, r < h2.length

theorem HSim.lt (h : HSim view R h1 h2) {i : Nat} (hi : Reach (h2.map view) R i) : i < h2.length := by
  have := reach_lt h.wf2 (by simpa using h.valid) i hi
  simpa using this

/-- other roots, all of them in use already -/
theorem HSim.mono (h : HSim view R h1 h2) {R' : List Nat} (hsub : ∀ r ∈ R', Reach (h2.map view) R r) :
    HSim view R' h1 h2 :=
  ⟨h.len, fun i hi => h.agree i (reach_mono_roots hsub i hi), h.wf1, h.wf2, fun r hr => h.lt (hsub r hr)⟩

/-- the same replacement on both sides by an object that points only to what was in use -/
theorem HSim.set (h : HSim view R h1 h2) (x : Nat) (o : α)
    (hs : ∀ y ∈ (view o).a.toList ++ (view o).b.toList, Reach (h2.map view) R y) :
    HSim view R (h1.set x o) (h2.set x o) := by
  have wf : ∀ {l : List α}, l.length = h2.length → WFHeap (l.map view) → WFHeap ((l.set x o).map view) := by
    intro l hl hwf z y hy
    rw [List.map_set] at hy
    rw [List.length_map, List.length_set, hl]
    rcases mem_succs_set hy with hy | hy
    · have := hwf z y hy; rwa [List.length_map, hl] at this
    · exact h.lt (hs y hy)
  refine ⟨by simp [h.len], fun i hi => ?_, wf h.len h.wf1, wf rfl h.wf2, by simpa using h.valid⟩
  have hi' : Reach (h2.map view) R i := by
    rw [List.map_set] at hi
    induction hi with
    | root hr => exact Reach.root hr
    | step _ hy ih =>
      rcases mem_succs_set hy with hy | hy
      · exact Reach.step ih hy
      · exact hs _ hy
  simp only [List.getElem?_set, h.len]
  split
  · rfl
  · exact h.agree i hi'

/-- the same allocation on both sides of an object with empty fields; the fresh index may be a root -/
theorem HSim.append (h : HSim view R h1 h2) (o : α) (ha : (view o).a = none) (hb : (view o).b = none) {R' : List Nat}
    (hR : ∀ r ∈ R', r = h2.length ∨ Reach (h2.map view) R r) : HSim view R' (h1 ++ [o]) (h2 ++ [o]) := by
  have sub : ∀ {l : List α} {z y : Nat}, y ∈ succs ((l ++ [o]).map view) z → y ∈ succs (l.map view) z := by
    intro l z y hy
    rw [List.map_append] at hy
    rcases mem_succs_append hy with hy | hy
    · exact hy
    · simp [ha, hb] at hy
  have wf : ∀ {l : List α}, WFHeap (l.map view) → WFHeap ((l ++ [o]).map view) := by
    intro l hwf z y hy
    have := hwf z y (sub hy)
    simp only [List.length_map, List.length_append] at this ⊢
    omega
  have old : ∀ i, Reach ((h2 ++ [o]).map view) R' i → i = h2.length ∨ Reach (h2.map view) R i := by
    intro i hi
    induction hi with
    | root hr => exact hR _ hr
    | @step z y _ hy ih =>
      rcases ih with rfl | ih
      · -- the fresh index is out of range in the old heap, so it has no successors there
        have := sub hy
        simp [succs] at this
      · exact Or.inr (Reach.step ih (sub hy))
  refine ⟨by simp [h.len], fun i hi => ?_, wf h.wf1, wf h.wf2, fun r hr => ?_⟩
  · rcases old i hi with rfl | hi
    · simp [← h.len]
    · have := h.lt hi
      rw [List.getElem?_append_left this, List.getElem?_append_left (h.len ▸ this)]
      exact h.agree i hi
  · rcases old r (Reach.root hr) with rfl | hi
    · simp
    · have := h.lt hi
      simp only [List.length_append, List.length_singleton]; omega

/-- a collection on the left: whatever it does to unmarked objects, nothing in use is touched -/
theorem HSim.collect (h : HSim view R h1 h2) {h1' : List α} (hl : h1'.length = h1.length)
    (hm : ∀ i ∈ markRoots (h1.map view) R, h1'[i]? = h1[i]?) (hwf : WFHeap (h1'.map view)) : HSim view R h1' h2 := by
  refine ⟨hl.trans h.len, fun i hi => ?_, hwf, h.wf2, h.valid⟩
  have hag : ∀ j, Reach (h2.map view) R j → (h1.map view)[j]? = (h2.map view)[j]? := by
    intro j hj; simp only [List.getElem?_map, h.agree j hj]
  -- reachable in `h2`, hence in `h1` (the two agree along the path), hence marked
  rw [hm i (mark_complete _ h.wf1 R (by simpa [h.len] using h.valid) i (reach_transfer hag i hi))]
  exact h.agree i hi

end

theorem mem_roots_of_slot {slots : List (Option Nat)} {d x : Nat} (h : (slots[d]?).join = some x) :
    x ∈ slots.filterMap id :=
  List.mem_filterMap.mpr ⟨_, List.mem_of_getElem? (Option.join_eq_some_iff.mp h), rfl⟩

theorem mem_roots_set {slots : List (Option Nat)} {d : Nat} {v : Option Nat} {r : Nat}
    (h : r ∈ (slots.set d v).filterMap id) : r ∈ slots.filterMap id ∨ v = some r := by
  obtain ⟨a, ha, hr⟩ := List.mem_filterMap.mp h
  rcases List.mem_or_eq_of_mem_set ha with h1 | rfl
  · exact Or.inl (List.mem_filterMap.mpr ⟨a, h1, hr⟩)
  · exact Or.inr hr

/-! ### the simulation relation: `s1` runs with collections, `s2` without -/

structure Sim (s1 s2 : St) : Prop where
  slots : s1.slots = s2.slots
  out : s1.out = s2.out
  len : s1.heap.length = s2.heap.length
  agree : ∀ i, Reach s2.heap s2.roots i → s1.heap[i]? = s2.heap[i]?
  wf1 : WFHeap s1.heap
  wf2 : WFHeap s2.heap
  rootsValid : ∀ r ∈ s2.roots, r < s2.heap.length

theorem Sim.heaps {s1 s2 : St} (h : Sim s1 s2) : HSim id s2.roots s1.heap s2.heap := by
  refine ⟨h.len, ?_, ?_, ?_, h.rootsValid⟩
  · rw [List.map_id]; exact h.agree
  · rw [List.map_id]; exact h.wf1
  · rw [List.map_id]; exact h.wf2

theorem Sim.of_heaps {s1 s2 : St} (hs : s1.slots = s2.slots) (ho : s1.out = s2.out)
    (h : HSim id s2.roots s1.heap s2.heap) : Sim s1 s2 := by
  obtain ⟨hl, ha, w1, w2, hv⟩ := h
  rw [List.map_id] at ha w1 w2
  exact ⟨hs, ho, hl, ha, w1, w2, hv⟩

theorem Sim.roots_eq {s1 s2 : St} (h : Sim s1 s2) : s1.roots = s2.roots := by
  unfold St.roots; rw [h.slots]

theorem Sim.getSlot_eq {s1 s2 : St} (h : Sim s1 s2) (d : Nat) : getSlot s1 d = getSlot s2 d := by
  unfold getSlot; rw [h.slots]

theorem Sim.init : Sim initSt initSt :=
  ⟨rfl, rfl, rfl, fun _ _ => rfl, fun x y hy => by simp [succs, initSt] at hy,
   fun x y hy => by simp [succs, initSt] at hy, fun r hr => by simp [St.roots, initSt] at hr⟩

theorem slot_reach {s : St} {d x : Nat} (h : getSlot s d = some x) : Reach s.heap s.roots x :=
  Reach.root (mem_roots_of_slot h)

theorem gcPoint_sim {s1 s2 : St} (sched : Nat → Bool) (k : Nat) (h : Sim s1 s2) : Sim (gcPoint sched k s1) s2 := by
  unfold gcPoint
  split
  · refine .of_heaps h.slots h.out (h.heaps.collect (sweep_length _ _) (fun i hi => ?_) ?_)
    · rw [List.map_id, ← h.roots_eq] at hi
      exact sweep_get_marked _ _ i hi
    · rw [List.map_id]; exact sweep_wf _ _ h.wf1
  · exact h

theorem setSlot_sim {s1 s2 : St} (h : Sim s1 s2) (d : Nat) (v : Option Nat)
    (hv : ∀ y, v = some y → Reach s2.heap s2.roots y) : Sim (setSlot s1 d v) (setSlot s2 d v) := by
  refine .of_heaps (by simp [setSlot, h.slots]) h.out (h.heaps.mono fun r hr => ?_)
  rw [List.map_id]
  rcases mem_roots_set hr with h1 | h1
  · exact Reach.root h1
  · exact hv r h1

theorem out_sim {s1 s2 : St} (h : Sim s1 s2) (l : List String) :
    Sim { s1 with out := s1.out ++ l } { s2 with out := s2.out ++ l } :=
  .of_heaps h.slots (by simp [h.out]) h.heaps

theorem idStr_eq {s1 s2 : St} (h : Sim s1 s2) (x : Nat) (hx : Reach s2.heap s2.roots x) :
    idStr s1.heap x = idStr s2.heap x := by
  unfold idStr; rw [h.agree x hx]

theorem prim_sim {s1 s2 : St} (h : Sim s1 s2) (p : Prim) : Sim (prim s1 p) (prim s2 p) := by
  cases p with
  | new d n =>
    simp only [prim]
    refine .of_heaps (by simp [setSlot, h.slots, h.len]) h.out ?_
    rw [h.len]
    refine h.heaps.append _ rfl rfl fun r hr => ?_
    rcases mem_roots_set hr with h1 | h1
    · exact Or.inr (Reach.root h1)
    · exact Or.inl (Option.some.inj h1).symm
  | set f d src =>
    simp only [prim]
    rw [h.getSlot_eq d, h.getSlot_eq src]
    cases hd : getSlot s2 d with
    | none => exact h
    | some x =>
      have hxr := slot_reach hd
      simp only [h.agree x hxr]
      cases hx : s2.heap[x]? with
      | none => exact h
      | some o =>
        refine .of_heaps h.slots h.out (h.heaps.set x _ fun y hy => ?_)
        rw [List.map_id]
        rcases succs_put_sub o f _ y hy with h1 | h1
        · exact reach_field hxr hx h1
        · exact slot_reach h1
  | load f d src =>
    simp only [prim]
    rw [h.getSlot_eq src]
    cases hs : getSlot s2 src with
    | none => exact h
    | some x =>
      have hxr := slot_reach hs
      simp only [h.agree x hxr]
      cases hx : s2.heap[x]? with
      | none => exact h
      | some o =>
        refine setSlot_sim h d _ fun y hy => reach_field hxr hx ?_
        cases f <;> simp only [Obj.get] at hy <;> simp [hy]
  | mov d src =>
    simp only [prim]; rw [h.getSlot_eq src]
    exact setSlot_sim h d _ (fun y hy => slot_reach hy)
  | clr d =>
    simp only [prim]
    exact setSlot_sim h d none (fun y hy => by cases hy)
  | «show» d =>
    simp only [prim]; rw [h.getSlot_eq d]
    cases hd : getSlot s2 d with
    | none => exact out_sim h _
    | some x =>
      simp only
      rw [idStr_eq h x (slot_reach hd)]
      exact out_sim h _
  | showNN d =>
    simp only [prim]; rw [h.getSlot_eq d]
    cases hd : getSlot s2 d with
    | none => exact h
    | some x =>
      simp only
      rw [idStr_eq h x (slot_reach hd)]
      exact out_sim h _
  | showA d =>
    simp only [prim]; rw [h.getSlot_eq d]
    cases hd : getSlot s2 d with
    | none => exact out_sim h _
    | some x =>
      have hxr := slot_reach hd
      simp only
      rw [h.agree x hxr]
      cases hx : s2.heap[x]? with
      | none => exact out_sim h _
      | some o =>
        simp only
        cases ha : o.a with
        | none => exact out_sim h _
        | some y =>
          simp only
          rw [idStr_eq h y (reach_field hxr hx (by simp [ha]))]
          exact out_sim h _

theorem exec_sim (sched : Nat → Bool) : ∀ (ps : List Prim) (k k' : Nat) (s1 s2 : St), Sim s1 s2 →
    Sim (exec sched k ps s1) (exec (fun _ => false) k' ps s2)
  | [], _, _, _, _, h => h
  -- the run on the right never collects: `gcPoint (fun _ => false) k' s2` reduces to `s2`, so that run steps to `prim s2 p`
  | p :: ps, k, k', _, _, h => exec_sim sched ps (k + 1) (k' + 1) _ _ (prim_sim (gcPoint_sim sched k h) p)

end BlochVerif.Gc
