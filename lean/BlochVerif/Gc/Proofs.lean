import BlochVerif.Gc.Model
/-! Proofs about the collector model: the depth-first mark reaches everything reachable (with fuel
`heap.length`; `MarkOK` is what one mark pass guarantees) and sweep leaves marked objects alone. -/
namespace BlochVerif.Gc

/-- reachable from the roots by following fields -/
inductive Reach (h : Heap) (roots : List Nat) : Nat → Prop
  | root {r : Nat} : r ∈ roots → Reach h roots r
  | step {x y : Nat} : Reach h roots x → y ∈ succs h x → Reach h roots y

/-- every reference stored in the heap points into the heap -/
def WFHeap (h : Heap) : Prop := ∀ x y, y ∈ succs h x → y < h.length

def markList (f : Nat) (h : Heap) (acc : List Nat) (cs : List Nat) : List Nat :=
  cs.foldl (fun acc c => markObj f h acc c) acc

theorem markObj_succ (f : Nat) (h : Heap) (m : List Nat) (x : Nat) :
    markObj (f + 1) h m x = if x ∈ m then m else markList f h (x :: m) (succs h x) := rfl

/-- what a mark pass that takes the marks `m` to `m'` guarantees.  `closed` speaks only of the marks the pass added: an
object marked before it may be in the middle of its own visit, its fields not all marked yet -/
structure MarkOK (h : Heap) (m m' : List Nat) : Prop where
  ext : ∃ e, m' = e ++ m
  nodup : m'.Nodup
  bound : ∀ y ∈ m', y < h.length
  closed : ∀ y ∈ m', y ∉ m → ∀ z ∈ succs h y, z ∈ m'

theorem MarkOK.refl {h : Heap} {m : List Nat} (hn : m.Nodup) (hb : ∀ y ∈ m, y < h.length) : MarkOK h m m :=
  ⟨⟨[], rfl⟩, hn, hb, fun _ hy hny => absurd hy hny⟩

theorem MarkOK.sub {h : Heap} {m m' : List Nat} (a : MarkOK h m m') : ∀ y ∈ m, y ∈ m' := by
  obtain ⟨e, he⟩ := a.ext
  intro y hy; rw [he]; exact List.mem_append_right _ hy

theorem MarkOK.len {h : Heap} {m m' : List Nat} (a : MarkOK h m m') : m.length ≤ m'.length := by
  obtain ⟨e, he⟩ := a.ext
  rw [he, List.length_append]; omega

theorem MarkOK.trans {h : Heap} {m m1 m2 : List Nat} (a : MarkOK h m m1) (b : MarkOK h m1 m2) :
    MarkOK h m m2 := by
  obtain ⟨e1, he1⟩ := a.ext
  obtain ⟨e2, he2⟩ := b.ext
  refine ⟨⟨e2 ++ e1, by rw [he2, he1, List.append_assoc]⟩, b.nodup, b.bound, ?_⟩
  intro y hy hny z hz
  by_cases h1 : y ∈ m1
  · exact b.sub z (a.closed y h1 hny z hz)
  · exact b.closed y hy h1 z hz

theorem pigeon {n : Nat} {m : List Nat} {x : Nat} (hn : m.Nodup) (hb : ∀ y ∈ m, y < n) (hx : x < n)
    (hxm : x ∉ m) : m.length < n := by
  have hnd : (x :: m).Nodup := List.nodup_cons.mpr ⟨hxm, hn⟩
  have hsub : (x :: m) ⊆ List.range n :=
    List.cons_subset.mpr ⟨List.mem_range.mpr hx, fun y hy => List.mem_range.mpr (hb y hy)⟩
  have := List.Nodup.length_le_of_subset hnd hsub
  simp at this
  omega

/-- `markObj (f + 1)` folds `markObj f` over the fields, so the fold is handled with the statement about `markObj f` as a
hypothesis: in `markObj_ok` that is the induction hypothesis -/
theorem markList_ok (h : Heap) (f : Nat)
    (ih : ∀ (m : List Nat) (x : Nat), x < h.length → m.Nodup → (∀ y ∈ m, y < h.length) →
        h.length ≤ f + m.length → MarkOK h m (markObj f h m x) ∧ x ∈ markObj f h m x) :
    ∀ (cs acc : List Nat), (∀ c ∈ cs, c < h.length) → acc.Nodup → (∀ y ∈ acc, y < h.length) →
      h.length ≤ f + acc.length →
      MarkOK h acc (markList f h acc cs) ∧ ∀ c ∈ cs, c ∈ markList f h acc cs := by
  intro cs
  induction cs with
  | nil => intro acc _ hn hb _; exact ⟨MarkOK.refl hn hb, fun c hc => by cases hc⟩
  | cons c cs ihc =>
    intro acc hcs hn hb hf
    have hc : c < h.length := hcs c (List.mem_cons_self ..)
    obtain ⟨ok1, hin1⟩ := ih acc c hc hn hb hf
    have hf1 : h.length ≤ f + (markObj f h acc c).length := by have := ok1.len; omega
    obtain ⟨ok2, hin2⟩ := ihc (markObj f h acc c) (fun c' hc' => hcs c' (List.mem_cons_of_mem _ hc'))
      ok1.nodup ok1.bound hf1
    exact ⟨ok1.trans ok2, List.forall_mem_cons.mpr ⟨ok2.sub _ hin1, hin2⟩⟩

/-- Why `heap.length` is fuel enough: a descent spends one unit of fuel and marks one new index, so
`h.length ≤ f + m.length` is kept; at fuel 0 it says that every index is marked (`pigeon`), and the cut-off there loses
nothing -/
theorem markObj_ok (h : Heap) (hwf : WFHeap h) : ∀ (f : Nat) (m : List Nat) (x : Nat), x < h.length → m.Nodup →
    (∀ y ∈ m, y < h.length) → h.length ≤ f + m.length →
    MarkOK h m (markObj f h m x) ∧ x ∈ markObj f h m x := by
  intro f
  induction f with
  | zero =>
    intro m x hx hn hb hf
    by_cases hxm : x ∈ m
    · exact ⟨by simpa [markObj] using MarkOK.refl hn hb, by simpa [markObj] using hxm⟩
    · have := pigeon hn hb hx hxm; omega
  | succ f ih =>
    intro m x hx hn hb hf
    rw [markObj_succ]
    by_cases hxm : x ∈ m
    · rw [if_pos hxm]; exact ⟨MarkOK.refl hn hb, hxm⟩
    · rw [if_neg hxm]
      have hn' : (x :: m).Nodup := List.nodup_cons.mpr ⟨hxm, hn⟩
      have hb' : ∀ y ∈ x :: m, y < h.length := List.forall_mem_cons.mpr ⟨hx, hb⟩
      have hf' : h.length ≤ f + (x :: m).length := by simp; omega
      obtain ⟨ok, hin⟩ := markList_ok h f ih (succs h x) (x :: m) (fun c hc => hwf x c hc) hn' hb' hf'
      obtain ⟨e, he⟩ := ok.ext
      have hxin : x ∈ markList f h (x :: m) (succs h x) := ok.sub x (List.mem_cons_self ..)
      refine ⟨⟨⟨e ++ [x], by rw [he]; simp⟩, ok.nodup, ok.bound, ?_⟩, hxin⟩
      intro y hy hny z hz
      by_cases hyx : y = x
      · subst hyx; exact hin z hz
      · exact ok.closed y hy (by simp [hyx, hny]) z hz

theorem mark_complete (h : Heap) (hwf : WFHeap h) (roots : List Nat) (hr : ∀ r ∈ roots, r < h.length) :
    ∀ i, Reach h roots i → i ∈ markRoots h roots := by
  -- `markRoots h roots` is `markList h.length h [] roots` by unfolding; a pass started from no marks leaves `MarkOK.closed`
  -- without its exception, so what it marks is closed under fields
  have key := markList_ok h h.length (fun m x => markObj_ok h hwf h.length m x) roots [] hr List.nodup_nil
    (by intro y hy; cases hy) (by simp)
  obtain ⟨ok, hin⟩ := key
  intro i hi
  induction hi with
  | root hr' => exact hin _ hr'
  | step _ hs ih => exact ok.closed _ ih (by simp) _ hs

theorem sweep_length (h : Heap) (m : List Nat) : (sweep h m).length = h.length := by
  simp [sweep]

theorem sweep_get (h : Heap) (m : List Nat) (i : Nat) :
    (sweep h m)[i]? = (h[i]?).map (fun o => if i ∈ m then o else { o with a := none, b := none }) := by
  simp only [sweep, List.getElem?_map, List.getElem?_zipIdx]
  cases h[i]? <;> simp

theorem sweep_get_marked (h : Heap) (m : List Nat) (i : Nat) (hi : i ∈ m) : (sweep h m)[i]? = h[i]? := by
  rw [sweep_get]; cases h[i]? <;> simp [hi]

theorem succs_sweep_sub (h : Heap) (m : List Nat) (x y : Nat) (hy : y ∈ succs (sweep h m) x) : y ∈ succs h x := by
  unfold succs at hy ⊢
  rw [sweep_get] at hy
  cases hx : h[x]? with
  | none => simp [hx] at hy
  | some o =>
    simp only [hx, Option.map_some] at hy
    split at hy
    · exact hy
    · simp at hy

theorem sweep_wf (h : Heap) (m : List Nat) (hwf : WFHeap h) : WFHeap (sweep h m) := by
  intro x y hy
  rw [sweep_length]
  exact hwf x y (succs_sweep_sub h m x y hy)

end BlochVerif.Gc
