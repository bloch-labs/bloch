import BlochVerif.Parse.Model
import BlochVerif.Lex.Proofs
/-!
# C13 — the front end is total

*Proved* (model level): the lexer's loop ends by consuming its input — any fuel above the input
length gives the answer of `tokenize` (`lexer_never_runs_out_of_fuel`) — and an accepted token list
ends with an `Eof` token (`tokens_end_with_eof`).  That lexing and parsing return either a result or
**exactly one** located diagnostic of one category is the type of the two models, total functions
into `Except`: `lexer_total` and `parser_total` restate it and hold of any value of such a type.

*Partial, named*: (1) for the parser model the `outOfFuel` outcome is not proved unreachable —
the driver reports it as `OUT-OF-FUEL` and every correspondence run counts it (0 on every run so
far, with fuel `16·tokens + 100`); (2) the semantic analyser and the import loader are not part of
this model (C16/C19 model fragments of them) — "terminates, one diagnostic, analyser reusable" is
checked on the real code with an ASan/UBSan build, a shared analyser instance compared against a
fresh one, and a timeout; (3) memory safety and stack depth of the real C++ are observed, not proved.
-/
namespace BlochVerif.Props.C13
open BlochVerif.Lex BlochVerif.Parse

/-- `tokenize` returns tokens or one lexical error; this holds of every value of type `Except _ _`, so what it
    records is only that the model is a total function into `Except LexError (List Token)` -/
theorem lexer_total (kw : List Char → Option TokenType) (src : List Char) :
    (∃ toks, tokenize kw src = .ok toks) ∨ (∃ e, tokenize kw src = .error e) :=
  Except.ok_or_error _

/-- any fuel above the input length gives the same answer as the `length + 1` that `tokenize` uses: the
    fuel, which the C++ loop does not have, does not show in the result (every iteration consumes a byte, so
    the `fuel = 0` clause of `tokenizeAux` is not reached) -/
theorem lexer_never_runs_out_of_fuel (kw : List Char → Option TokenType) (src : List Char)
    (fuel : Nat) (h : src.length < fuel) :
    tokenizeAux kw fuel src ⟨1, 1⟩ [] = tokenize kw src := by
  unfold tokenize
  exact tokenizeAux_fuel_irrelevant kw fuel (src.length + 1) src ⟨1, 1⟩ [] h (by omega)

/-- an accepted token list is non-empty and its last token is `Eof`, which the parser relies on (`peek()` past the
    end returns `m_tokens.back()`, `advance()` stops at `Eof`).  Nothing is said of the tokens before it: a keyword
    table with an entry for `Eof` gives more than one `Eof`; the generated table has none. -/
theorem lexed_ends_with_eof {p0 : Pos} {src : List Char} {toks : List Token} (hl : Lexed p0 src toks) :
    ∃ init p, toks = init ++ [⟨.Eof, [], p⟩] := by
  induction hl with
  | @eof p w _ => exact ⟨[], _, rfl⟩
  | @tok p w t rest ts _ _ _ _ ih =>
    obtain ⟨init, q, e⟩ := ih
    exact ⟨t :: init, q, by rw [e]; rfl⟩

theorem tokens_end_with_eof (kw : List Char → Option TokenType) (src : List Char) (toks : List Token)
    (h : tokenize kw src = .ok toks) : ∃ init p, toks = init ++ [⟨.Eof, [], p⟩] :=
  lexed_ends_with_eof (tokenize_lossless kw src toks h)

/-- like `lexer_total`: true of every value of type `Except PErr Program` -/
theorem parser_total (tb : Tables) (toks : List Token) :
    (∃ p, parseProgram tb toks = .ok p) ∨ (∃ e, parseProgram tb toks = .error e) :=
  Except.ok_or_error _

end BlochVerif.Props.C13
