import BlochVerif.Sim.History
import BlochVerif.Eval.Prims
/-!
# C02 — measurement follows the Born rule and collapses to the normalised projection

`measureCore` is the body of `QasmSimulator::measure` with the uniform draw `r` made an explicit
input.  Theorems are over exact amplitudes (`ℂ`, `ℝ`); uniformity of the C++ generator and IEEE
rounding are assumptions (DESIGN.md §5).
-/
namespace BlochVerif.Props.C02
open BlochVerif BlochVerif.Sim Finset

/-- **Born rule, per draw.** The reported outcome is 1 exactly when the uniform draw falls below
    the squared norm of the component of the state in which the qubit is 1. -/
theorem outcome_iff_draw_below_born_probability (st : State ℂ ℝ) (hw : WF st) (q : ℕ) (r : ℝ) :
    (measureCore complexOps st q r).2 = true ↔ r < massSpec (absArr st.amps) (2 ^ st.n) q true := by
  rw [measureCore_outcome st hw]; simp

/-- the squared norms of the two components are probabilities: non-negative and summing to 1,
    so a draw uniform on `[0,1)` selects 1 with probability `‖P₁ψ‖²` -/
theorem born_probabilities (st : State ℂ ℝ) (hw : WF st) (q : ℕ) :
    0 ≤ massSpec (absArr st.amps) (2 ^ st.n) q true ∧
    0 ≤ massSpec (absArr st.amps) (2 ^ st.n) q false ∧
    massSpec (absArr st.amps) (2 ^ st.n) q true + massSpec (absArr st.amps) (2 ^ st.n) q false = 1 :=
  ⟨massSpec_nonneg _ _ _ _, massSpec_nonneg _ _ _ _, by rw [massSpec_add]; exact hw.norm⟩

/-- **Collapse.** After the measurement the state is exactly the normalised projection of the
    pre-measurement state onto the reported outcome, the projected component is non-zero, and
    the result is again a unit vector. -/
theorem collapse_is_normalised_projection (st : State ℂ ℝ) (hw : WF st) (q : ℕ) (r : ℝ)
    (hr0 : 0 ≤ r) (hr1 : r < 1) :
    0 < massSpec (absArr st.amps) (2 ^ st.n) q (measureCore complexOps st q r).2 ∧
    (∀ k, k < 2 ^ st.n → (measureCore complexOps st q r).1.amps[k]! =
      if k.testBit q = (measureCore complexOps st q r).2 then (absArr st.amps) k /
        ((Real.sqrt (massSpec (absArr st.amps) (2 ^ st.n) q (measureCore complexOps st q r).2) : ℝ) : ℂ)
      else 0) ∧
    WF (measureCore complexOps st q r).1 := by
  refine ⟨?_, fun k _ => congrFun (measureCore_abs st hw q r) k, WF_measureCore st hw q r hr0 hr1⟩
  rw [measureCore_outcome st hw]
  exact branch_pos _ _ _ hw.norm r hr0 hr1

/-- the public `measure` (with the activity check) returns exactly the core's outcome as 0/1 -/
theorem measure_returns_core_outcome (st : State ℂ ℝ) (q : ℕ) (r : ℝ) (hq : q < st.n)
    (hm : st.measured[q]! = false) :
    measure complexOps st q r = .ok ((measureCore complexOps st q r).1,
      if (measureCore complexOps st q r).2 then 1 else 0) :=
  (measure_eq_ok _ st q r _).mpr ⟨(ensureActive_eq_ok st q).mpr ⟨hq, hm⟩, rfl⟩

/-- **Correlated qubits agree.** If the state is supported on basis states where qubits `a` and
    `b` carry the same value, then after measuring `a` a measurement of `b` returns the same bit,
    whatever the second draw. -/
theorem correlated_qubits_agree (st : State ℂ ℝ) (hw : WF st) (a b : ℕ) (r r' : ℝ)
    (hr0 : 0 ≤ r) (hr1 : r < 1) (hr0' : 0 ≤ r') (hr1' : r' < 1)
    (hcorr : ∀ k, k < 2 ^ st.n → (absArr st.amps) k ≠ 0 → k.testBit a = k.testBit b) :
    (measureCore complexOps (measureCore complexOps st a r).1 b r').2 =
      (measureCore complexOps st a r).2 := by
  have hw' := WF_measureCore st hw a r hr0 hr1
  have hn := hw'.norm
  rw [measureCore_outcome _ hw']
  rw [measureCore_abs st hw, measureCore_n] at hn ⊢
  generalize (measureCore complexOps st a r).2 = res at hn ⊢
  -- after the collapse onto `a = res` nothing is left where `b ≠ res`
  have hz : massSpec (collapseSpec (absArr st.amps) (2 ^ st.n) a res) (2 ^ st.n) b (!res) = 0 := by
    rw [massSpec_eq_zero_iff]
    intro k hk hb
    unfold collapseSpec
    split
    · rename_i ha
      by_cases hne : (absArr st.amps) k = 0
      · simp [hne]
      · have := hcorr k hk hne
        rw [ha, hb] at this
        cases res <;> simp at this
    · rfl
  have hsum := massSpec_add (collapseSpec (absArr st.amps) (2 ^ st.n) a res) (2 ^ st.n) b
  rw [hn] at hsum
  cases res
  · rw [Bool.not_false] at hz
    rw [hz]; simp; linarith
  · rw [Bool.not_true] at hz
    rw [show massSpec (collapseSpec (absArr st.amps) (2 ^ st.n) a true) (2 ^ st.n) b true = 1 by linarith]
    simp [hr1']

/-- **An immediate re-read gives the same value**, whatever the second draw. -/
theorem remeasure_same (st : State ℂ ℝ) (hw : WF st) (q : ℕ) (r r' : ℝ)
    (hr0 : 0 ≤ r) (hr1 : r < 1) (hr0' : 0 ≤ r') (hr1' : r' < 1) :
    (measureCore complexOps (measureCore complexOps st q r).1 q r').2 =
      (measureCore complexOps st q r).2 :=
  correlated_qubits_agree st hw q q r r' hr0 hr1 hr0' hr1' (fun _ _ _ => rfl)

/-- the qubit is flagged as measured and the log, if it is kept, gains exactly one `measure` line -/
theorem measure_marks_and_logs (st : State ℂ ℝ) (hw : WF st) (q : ℕ) (r : ℝ) :
    (measureCore complexOps st q r).1.measured = st.measured.setIfInBounds q true ∧
    (measureCore complexOps st q r).1.ops =
      (if st.logOps then st.ops ++ [QOp.measure q] else st.ops) :=
  ⟨measureCore_measured _ st q r, measureCore_ops _ st q r⟩

/-! Non-vacuity: a Bell-pair-capable register exists and is well-formed. -/
example : WF (allocate complexOps (allocate complexOps (State.init complexOps)).1).1 :=
  WF_allocate _ (WF_allocate _ (WF_init _))

/-! ## evaluator level: the returned bit, the stored value and the reported outcome agree -/
open BlochVerif.Eval BlochVerif.Parse

/-- The bit a measurement returns, the value remembered for the qubit, the outcome a `@tracked` qubit reports and the
outcome the simulator recorded are one and the same bit. -/
theorem measured_bit_is_stored_and_reported (q : Nat) (p : P) (st st' : EState) (v : Value)
    (hq : q < st.lastMeasurement.length)
    (h : (measureQubit (q : Int) p).run st = .ok (v, st')) :
    ∃ bit : Int, v = mkBit bit ∧ (bit = 0 ∨ bit = 1) ∧
      lastOf st'.lastMeasurement q = some bit ∧
      st'.outcomes.head? = some ('m', q, bit.toNat) ∧
      trackedOutcome st'.lastMeasurement { type := .Qubit, qubit := q } = some ("qubit ", if bit = 0 then "0" else "1") := by
  obtain ⟨_, _, _, s, res, hs, rfl, rfl⟩ := measureQubit_ok h
  obtain ⟨_, hs⟩ := (Sim.measure_eq_ok _ _ _ _ _).mp hs
  have hres : (res : Int) = 0 ∨ (res : Int) = 1 := by
    rw [← (Prod.mk.inj hs).2]; split <;> simp
  have hlast : lastOf (if (q : Int) < st.lastMeasurement.length then st.lastMeasurement.set (q : Int).toNat res
      else st.lastMeasurement) q = some (res : Int) := by
    have hq' : (q : Int) < st.lastMeasurement.length := by omega
    rw [if_pos hq', Int.toNat_natCast]
    unfold lastOf
    simp only [List.length_set, Int.toNat_natCast, List.getD_eq_getElem?_getD, List.getElem?_set_self hq]
    rcases hres with h0 | h0 <;> simp [h0, hq']
  refine ⟨res, rfl, hres, hlast, by simp, ?_⟩
  simp only [trackedOutcome, outcomeChar, hlast]
  rcases hres with h0 | h0 <;> simp [h0]

end BlochVerif.Props.C02
