import BlochVerif.Eval.OpsLog
import BlochVerif.Generated.QasmLines
import BlochVerif.Sim.Qasm
import BlochVerif.Sim.Replay
/-!
# C05 — the emitted OpenQASM lists what was done, once, in order, and is well formed

About the simulator model (any scalar instance): every operation the simulator performs appends exactly
its own line to the log, a refused operation and an allocation append nothing, so after any history the
log is the list of performed operations in execution order (`log_is_history`; `lineOf`, the line a step logs, is defined
in `Sim/Ops.lean`, where the case rule `stepOp_cases` speaks of it); every logged operand is in
range of the final register and `cx` operands are distinct (`log_wellformed`).  The replay clause (an
independent OpenQASM interpreter reaches the simulator's final state): over exact complex amplitudes, declaring
the whole register first and then performing the operations of the history with the same draws reaches exactly the state
of the interleaved run (`replay_reaches_the_same_state`, from `Sim/Replay.lean`: allocation commutes with every
performed operation).  What remains outside the theorem is the text level of the replay — six-decimal angles and
the parsing of the text — which the independent interpreter in `tools/qasmlib.py` decides on generated programs
(PARTIAL).  At the end: for the evaluator model, whatever a program does the log only grows at its end; and the rendered
lines are the strings the C++ builds (`Generated/QasmLines.lean`).
-/
namespace BlochVerif.Props.C05
open BlochVerif BlochVerif.Sim

variable {K R : Type} [Inhabited K] [Add K] [Mul K]

/-- operands in range, `cx` on distinct qubits -/
def opOK (n : Nat) : QOp R → Prop
  | .h q | .x q | .y q | .z q | .rx q _ | .ry q _ | .rz q _ | .reset q | .measure q => q < n
  | .cx c t => c < n ∧ t < n ∧ c ≠ t

theorem opOK_mono {n m : Nat} (h : n ≤ m) (op : QOp R) (hk : opOK n op) : opOK m op := by
  cases op <;> simp only [opOK] at hk ⊢ <;> omega

omit [Inhabited K] [Add K] [Mul K] in
theorem opOK_of_gateMat {o : ROps K R} {op : QOp R} {q : Nat} {m : Mat2 K} (hg : gateMat o op = some (q, m))
    (n : Nat) : opOK n op ↔ q < n := by
  cases op <;> simp only [gateMat, Option.some.injEq, Prod.mk.injEq, reduceCtorEq] at hg <;>
    simp only [opOK, hg.1]

theorem step_log (o : ROps K R) (st : State K R) (hl : st.logOps = true) (hop : HOp R) :
    (stepOp o st hop).ops = st.ops ++ lineOf o st hop ∧ (stepOp o st hop).logOps = true ∧
    st.n ≤ (stepOp o st hop).n ∧ ∀ l ∈ lineOf o st hop, opOK (stepOp o st hop).n l :=
  stepOp_cases o st
    (P := fun _ s ls => s.ops = st.ops ++ ls ∧ s.logOps = true ∧ st.n ≤ s.n ∧ ∀ l ∈ ls, opOK s.n l)
    (refused := fun _ _ => by simp [hl]) (alloc := by simp [hl])
    (gate := fun g q m hg he => by simp [hl, log_ops, opOK_of_gateMat hg, ensureActive_lt he])
    (cx := fun c t hc ht hct => by simp [hl, log_ops, opOK, hct, ensureActive_lt hc, ensureActive_lt ht])
    (measure := fun q r he => by simp [hl, measureCore_ops, opOK, ensureActive_lt he])
    (reset := fun q r hq => by simp [hl, resetCore_ops, opOK, hq]) hop

/-- the operations performed along a history, in execution order -/
def performed (o : ROps K R) : State K R → List (HOp R) → List (QOp R)
  | _, [] => []
  | st, hop :: rest => lineOf o st hop ++ performed o (stepOp o st hop) rest

/-- The log after any history is exactly the list of operations the simulator performed: each one once,
in execution order, nothing else. -/
theorem log_is_history (o : ROps K R) (h : List (HOp R)) (st : State K R) (hl : st.logOps = true) :
    (runOps o st h).ops = st.ops ++ performed o st h := by
  induction h generalizing st with
  | nil => simp [performed]
  | cons hop rest ih =>
    obtain ⟨h1, h2, _, _⟩ := step_log o st hl hop
    rw [runOps_cons, ih _ h2, h1, performed, List.append_assoc]

theorem runOps_n_mono (o : ROps K R) (h : List (HOp R)) (st : State K R) (hl : st.logOps = true) :
    st.n ≤ (runOps o st h).n := by
  induction h generalizing st with
  | nil => exact Nat.le_refl _
  | cons hop rest ih =>
    obtain ⟨_, h2, h3, _⟩ := step_log o st hl hop
    exact Nat.le_trans h3 (ih _ h2)

/-- Every logged operand is in range of the final register and two-qubit gates act on distinct qubits. -/
theorem log_wellformed (o : ROps K R) (h : List (HOp R)) (st : State K R) (hl : st.logOps = true)
    (hst : ∀ l ∈ st.ops, opOK st.n l) : ∀ l ∈ (runOps o st h).ops, opOK (runOps o st h).n l := by
  induction h generalizing st with
  | nil => exact hst
  | cons hop rest ih =>
    obtain ⟨h1, h2, h3, h4⟩ := step_log o st hl hop
    refine ih _ h2 fun l hlm => ?_
    rw [h1] at hlm
    rcases List.mem_append.mp hlm with hm | hm
    · exact opOK_mono h3 l (hst l hm)
    · exact h4 l hm

/-- from the initial state: the whole program text is the header for the final register size followed by one
line per performed operation -/
theorem qasm_text_is_header_plus_history (o : ROps K R) (fmt : R → String) (h : List (HOp R)) :
    getQasm fmt (runOps o (State.init o true) h) =
      renderProgram (runOps o (State.init o true) h).n ((performed o (State.init o true) h).map (QOp.toText fmt)) := by
  unfold getQasm
  rw [log_is_history o h (State.init o true) rfl]
  simp [State.init]

/-- For a history whose operations are all performed and whose draws are in `[0,1)`: replaying the operations on a
register declared up front (`qreg q[n]` with `n` the number of allocations) with the same draws reaches the very state
the simulation ended in — amplitudes, measured flags and operation log. -/
theorem replay_reaches_the_same_state (h : List (HOp ℝ)) (hd : ∀ op ∈ h, DrawOK op)
    (hp : AllPerformed (State.init complexOps true) h) :
    runOps complexOps (State.init complexOps true) h =
      runOps complexOps (allocN (nAllocs h) (State.init complexOps true)) (opsOnly h) :=
  interleaved_allocation_equals_upfront h _ (WF_init true) hd hp

/-- **Evaluator level.**  Whatever a program does — any function, any body, any fuel — the simulator's operation log,
from which the OpenQASM text is printed, is only extended at its end, and the logging switch is never touched: no emitted
line is ever retracted, reordered or rewritten (induction principle of the evaluator model, `Eval/OpsLog.lean`). -/
theorem a_program_only_appends_to_the_emitted_operations (fuel : Nat) (fn : Parse.FuncDecl) (args : List Eval.Value)
    (st st' : Eval.EState) (v : Eval.Value) (h : (Eval.call fuel fn args).run st = .ok (v, st')) :
    (∃ suf, st'.sim.ops = st.sim.ops ++ suf) ∧ st'.sim.logOps = st.sim.logOps :=
  Eval.call_only_extends_the_log fuel fn args st st' v h

/-- `Generated/QasmLines.lean` is rewritten on every run from the `m_ops.emplace_back(...)` of each simulator
operation and from `getQasm`; the line the model renders for an operation is that concatenation, piece for piece -/
theorem rendered_line_is_the_source_line {R : Type} (fmt : R → String) (op : QOp R) :
    (QOp.toText fmt op).render = Generated.logLineSrc fmt op := by
  cases op <;> rfl

/-- … and the whole text is the source's preamble followed by the logged lines in order -/
theorem qasm_text_is_the_source_concatenation {K R : Type} (fmt : R → String) (st : State K R) :
    getQasm fmt st = Generated.preambleSrc st.n ++ String.join (st.ops.map (Generated.logLineSrc fmt)) := by
  unfold getQasm renderProgram Generated.preambleSrc header
  have : (st.ops.map (QOp.toText fmt)).map TOp.render = st.ops.map (Generated.logLineSrc fmt) := by
    rw [List.map_map]
    exact List.map_congr_left (fun op _ => rendered_line_is_the_source_line fmt op)
  rw [this]
  simp only [String.append_assoc]

end BlochVerif.Props.C05
