import BlochVerif.Eval.Flags
import BlochVerif.Eval.GateCall
/-!
# C06 — a measured qubit cannot be operated on until reset

`Flags` is the evaluator's measured-flag machine; the theorems say that, for every history, an operation is
refused exactly when it touches a qubit whose last {declare, reset, measure} event was a measure (the machine knows
no other refusal: the evaluator also refuses `cx` on one qubit twice).  For the
evaluator model: its guard (`ensureQubitActive`) refuses a qubit whose flag is set, that flag is the simulator's at program
start and wherever a call or statement has ended successfully, a measurement sets it, a reset clears it and a gate call leaves it alone; no theorem runs `Flags.step`
against the evaluator.  The access-path clause
(variable, array element, parameter, object field) is about aliasing in the evaluator and is tied by the
correspondence run: exhaustive operation sequences rendered through every access path.
-/
namespace BlochVerif.Props.C06
open BlochVerif.Flags

theorem isMeasured_setFlag (m : List Bool) (q q' : Nat) (b : Bool) (hq : q < m.length) :
    isMeasured (setFlag m q' b) q = if q = q' then b else isMeasured m q := by
  unfold isMeasured setFlag
  by_cases h : q = q'
  · subst h; simp [hq]
  · simp [h, List.getElem?_set_ne (Ne.symm h)]

/-- the same in the shape of `effect`: a `measure`/`reset` of `q'` decides the flag of `q'` and of no other qubit -/
theorem isMeasured_setFlag_effect (m : List Bool) (q q' : Nat) (b : Bool) (hq : q < m.length) :
    isMeasured (setFlag m q' b) q = (if q' = q then some b else none).getD (isMeasured m q) := by
  rw [isMeasured_setFlag _ _ _ _ hq]
  by_cases e : q = q'
  · simp [e]
  · simp [e, Ne.symm e]

theorem setFlag_length (m : List Bool) (q : Nat) (b : Bool) : (setFlag m q b).length = m.length := by
  simp [setFlag]

theorem measureAll_some (qs : List Nat) : ∀ (m m' : List Bool), measureAll m qs = some m' →
    m'.length = m.length ∧ (∀ q, q < m.length → isMeasured m' q = if q ∈ qs then true else isMeasured m q) ∧
    (∀ q ∈ qs, isMeasured m q = false) := by
  induction qs with
  | nil => intro m m' h; simp [measureAll] at h; subst h; simp
  | cons q0 rest ih =>
    intro m m' h
    simp only [measureAll] at h
    split at h
    · cases h
    · rename_i hq0
      obtain ⟨hl, hf, ha⟩ := ih _ _ h
      rw [setFlag_length] at hl
      refine ⟨hl, ?_, ?_⟩
      · intro q hq
        rw [hf q (by rw [setFlag_length]; exact hq), isMeasured_setFlag _ _ _ _ hq]
        by_cases h1 : q ∈ rest <;> by_cases h2 : q = q0 <;> simp [h1, h2]
      · intro q hq
        rcases List.mem_cons.mp hq with rfl | hq
        · simpa using hq0
        · have := ha q hq
          by_cases hlt : q < m.length
          · rw [isMeasured_setFlag _ _ _ _ hlt] at this
            split at this
            · cases this
            · exact this
          · unfold isMeasured; simp [List.getD_eq_getElem?_getD, List.getElem?_eq_none (Nat.le_of_not_lt hlt)]

theorem measureAll_none (qs : List Nat) (hnd : qs.Nodup) : ∀ (m : List Bool), measureAll m qs = none →
    ∃ q ∈ qs, isMeasured m q = true := by
  induction qs with
  | nil => intro m h; simp [measureAll] at h
  | cons q0 rest ih =>
    intro m h
    simp only [measureAll] at h
    have hnd' := List.nodup_cons.mp hnd
    split at h
    · rename_i hq0; exact ⟨q0, List.mem_cons_self .., hq0⟩
    · obtain ⟨q, hq, hm⟩ := ih hnd'.2 _ h
      refine ⟨q, List.mem_cons_of_mem _ hq, ?_⟩
      have hne : q ≠ q0 := fun e => hnd'.1 (e ▸ hq)
      unfold isMeasured setFlag at hm
      rw [List.getD_eq_getElem?_getD, List.getElem?_set_ne (Ne.symm hne)] at hm
      simpa [isMeasured, List.getD_eq_getElem?_getD] using hm

/-- an accepted operation touched only usable qubits and updates the flags as the history prescribes -/
theorem step_accepts (m m' : List Bool) (op : Op) (h : step m op = some m') :
    m'.length = m.length ∧
    (∀ q, q < m.length → isMeasured m' q = (effect q op).getD (isMeasured m q)) ∧
    (∀ q ∈ touches op, isMeasured m q = false) := by
  cases op with
  | gate q0 =>
    simp only [step] at h
    split at h
    · cases h
    · cases h; rename_i hq; exact ⟨rfl, by simp [effect], by simpa [touches] using hq⟩
  | cx c t =>
    simp only [step] at h
    split at h
    · cases h
    · cases h; rename_i hq
      simp only [Bool.or_eq_true, not_or, Bool.not_eq_true] at hq
      exact ⟨rfl, by simp [effect], by simp [touches, hq.1, hq.2]⟩
  | measure q0 =>
    simp only [step] at h
    split at h
    · cases h
    · cases h; rename_i hq
      exact ⟨setFlag_length .., fun q hql => isMeasured_setFlag_effect _ _ _ _ hql, by simpa [touches] using hq⟩
  | reset q0 =>
    simp only [step] at h
    cases h
    exact ⟨setFlag_length .., fun q hql => isMeasured_setFlag_effect _ _ _ _ hql, by simp [touches]⟩
  | measureArr qs =>
    simp only [step] at h
    obtain ⟨hl, hf, ha⟩ := measureAll_some qs m m' h
    refine ⟨hl, ?_, by simpa [touches] using ha⟩
    intro q hql
    rw [hf q hql]
    by_cases e : q ∈ qs <;> simp [effect, e]

/-- a refused operation touches a qubit whose flag is set -/
theorem step_refuses (m : List Bool) (op : Op) (hwf : WFOp op) (h : step m op = none) :
    ∃ q ∈ touches op, isMeasured m q = true := by
  cases op with
  | gate q0 =>
    simp only [step] at h
    split at h
    · rename_i hq; exact ⟨q0, by simp [touches], hq⟩
    · cases h
  | cx c t =>
    simp only [step] at h
    split at h
    · rename_i hq
      simp only [Bool.or_eq_true] at hq
      rcases hq with hq | hq
      · exact ⟨c, by simp [touches], hq⟩
      · exact ⟨t, by simp [touches], hq⟩
    · cases h
  | measure q0 =>
    simp only [step] at h
    split at h
    · rename_i hq; exact ⟨q0, by simp [touches], hq⟩
    · cases h
  | reset q0 => simp [step] at h
  | measureArr qs =>
    simp only [step] at h
    exact measureAll_none qs hwf m h

theorem measuredBy_snoc (q : Nat) (init : Bool) (pre : List Op) (op : Op) :
    measuredBy q init (pre ++ [op]) = (effect q op).getD (measuredBy q init pre) := by
  simp [measuredBy, List.foldl_append]

/-- the flags `m` are what the history `pre` prescribes, qubit by qubit -/
def Tracks (m0 : List Bool) (pre : List Op) (m : List Bool) : Prop :=
  m.length = m0.length ∧ ∀ q, q < m0.length → isMeasured m q = measuredBy q (isMeasured m0 q) pre

theorem Tracks.snoc {m0 m m' : List Bool} {pre : List Op} {op : Op} (h : Tracks m0 pre m)
    (hs : step m op = some m') : Tracks m0 (pre ++ [op]) m' := by
  obtain ⟨hl, hf, _⟩ := step_accepts m m' op hs
  exact ⟨hl.trans h.1, fun q hq => by rw [hf q (h.1 ▸ hq), measuredBy_snoc, h.2 q hq]⟩

/-- The machine run over `rest` from flags that track the history `pre`: if it stops, it stops at an operation it refuses
in flags that track the history up to there; if it does not, every operation is accepted in such flags. -/
theorem firstRefused_spec (m0 : List Bool) : ∀ (rest pre : List Op) (m : List Bool), Tracks m0 pre m →
    (∀ k, firstRefused m rest pre.length = some k → ∃ j mj op, k = pre.length + j ∧ rest[j]? = some op ∧
      Tracks m0 (pre ++ rest.take j) mj ∧ step mj op = none) ∧
    (firstRefused m rest pre.length = none → ∀ j op, rest[j]? = some op →
      ∃ mj m', Tracks m0 (pre ++ rest.take j) mj ∧ step mj op = some m') := by
  intro rest
  induction rest with
  | nil => intro pre m _; simp [firstRefused]
  | cons op0 rest ih =>
    intro pre m ht
    have h0 : Tracks m0 (pre ++ List.take 0 (op0 :: rest)) m := by simpa using ht
    simp only [firstRefused]
    cases hs : step m op0 with
    | none => exact ⟨fun k hk => ⟨0, m, op0, by simpa using hk.symm, rfl, h0, hs⟩, fun h => by cases h⟩
    | some m' =>
      obtain ⟨ih1, ih2⟩ := ih (pre ++ [op0]) m' (ht.snoc hs)
      rw [List.length_append, List.length_singleton] at ih1 ih2
      refine ⟨fun k hk => ?_, fun hn j op hj => ?_⟩
      · obtain ⟨j, mj, op, rfl, hj, htj, hsj⟩ := ih1 k hk
        exact ⟨j + 1, mj, op, by omega, by simpa using hj, by simpa [List.append_assoc] using htj, hsj⟩
      · cases j with
        | zero =>
          obtain rfl : op0 = op := by simpa using hj
          exact ⟨m, m', h0, hs⟩
        | succ j =>
          obtain ⟨mj, m'', htj, hsj⟩ := ih2 hn j op (by simpa using hj)
          exact ⟨mj, m'', by simpa [List.append_assoc] using htj, hsj⟩

/-- Main theorem, refusal side: the first refused operation touches a qubit whose last
{declare, reset, measure} event — in the history up to that point — was a measure. -/
theorem refusal_means_measured_and_not_reset (m0 : List Bool) (ops : List Op)
    (hwf : ∀ op ∈ ops, WFOp op) (hb : ∀ op ∈ ops, ∀ q ∈ touches op, q < m0.length) (k : Nat)
    (h : firstRefused m0 ops 0 = some k) :
    ∃ op q, ops[k]? = some op ∧ q ∈ touches op ∧ measuredBy q (isMeasured m0 q) (ops.take k) = true := by
  obtain ⟨j, mj, op, rfl, hj, htj, hsj⟩ := (firstRefused_spec m0 ops [] m0 ⟨rfl, fun _ _ => rfl⟩).1 k h
  have hop := List.mem_of_getElem? hj
  obtain ⟨q, hq, hm⟩ := step_refuses mj op (hwf op hop) hsj
  refine ⟨op, q, by simpa using hj, hq, ?_⟩
  rw [← hm, htj.2 q (hb op hop q hq)]
  simp

/-- Main theorem, acceptance side: if nothing is refused, no operation ever touched a qubit whose last event
was a measure — a never-measured or reset qubit is never refused, and every measured one always is. -/
theorem no_refusal_means_every_touched_qubit_was_usable (m0 : List Bool) (ops : List Op)
    (hb : ∀ op ∈ ops, ∀ q ∈ touches op, q < m0.length)
    (h : firstRefused m0 ops 0 = none) :
    ∀ (k : Nat) (op : Op) (q : Nat), ops[k]? = some op → q ∈ touches op →
      measuredBy q (isMeasured m0 q) (ops.take k) = false := by
  intro k op q hk hq
  obtain ⟨mj, m', htj, hsj⟩ := (firstRefused_spec m0 ops [] m0 ⟨rfl, fun _ _ => rfl⟩).2 h k op hk
  rw [← (step_accepts mj m' op hsj).2.2 q hq, htj.2 q (hb op (List.mem_of_getElem? hk) q hq)]
  simp

open BlochVerif BlochVerif.Eval BlochVerif.Parse

/-! ### the evaluator model's guard refuses a qubit whose flag is set -/
theorem guard_refuses_measured (st : EState) (idx : Nat) (p : P) (hi : idx < st.qubits.length)
    (hm : (st.qubits.getD idx default).measured = true) :
    (ensureQubitActive (idx : Int) p).run st = .error (.runtime p.line p.col "qubit has already been measured") := by
  rw [run_ensureQubitActive, if_neg (by omega), Int.toNat_natCast, if_pos hm]

/-! ### whole-evaluator form: the flag the guard reads is the simulator's, wherever a call has ended successfully

`Eval.Agree st`: the evaluator knows exactly the simulator's qubits and its measured flag of each equals the
simulator's.  Established at program start and preserved by every call of every function (the evaluator's induction
principle applied to the invariant, `Eval/FlagsAgree.lean`).  The guard consults the flag *by qubit index*, so the
access path — variable, array element, parameter — cannot matter. -/
theorem flags_agree_at_program_start (prog : Program) (draws : List Float) (e l : Bool) :
    Agree (startState prog draws e l) :=
  agree_start prog draws e l

theorem flags_agree_after_every_call (fuel : Nat) (fn : FuncDecl) (args : List Value) (st st' : EState) (v : Value)
    (hi : Agree st) (h : (call fuel fn args).run st = .ok (v, st')) : Agree st' :=
  call_keeps_flags_in_agreement fuel fn args st st' v hi h

/-- under agreement the evaluator's guard refuses a qubit exactly when the simulator holds it as measured -/
theorem guard_refuses_iff_simulator_flag (st : EState) (hi : Agree st) (idx : Nat) (p : P) (hl : idx < st.sim.n) :
    (ensureQubitActive (idx : Int) p).run st = .error (.runtime p.line p.col "qubit has already been measured") ↔
      st.sim.measured[idx]! = true := by
  have hlen : idx < st.qubits.length := by rw [hi.count]; exact hl
  rw [← hi.same idx hl, run_ensureQubitActive, if_neg (by omega), Int.toNat_natCast]
  split <;> simp_all

/-- **The simulator's own refusal is never reached.**  In a state where the flags agree — every state a program can
reach — a qubit reference that the evaluator's guard lets through (at the position of the call) is inside the register
and the simulator's guard accepts it too: the un-located "cannot operate on measured qubit" / "out of range" of the
simulator cannot be what a program sees after the located check has passed. -/
theorem guard_passes_implies_simulator_accepts (st st' : EState) (hi : Agree st) (idx : Int) (p : P)
    (h : (ensureQubitActive idx p).run st = .ok ((), st')) :
    st' = st ∧ 0 ≤ idx ∧ idx.toNat < st.sim.n ∧ Sim.ensureActive st.sim idx.toNat = .ok () := by
  obtain ⟨rfl, h0, hl, hm⟩ := ensureQubitActive_ok h
  have ha := hi.ensureActive h0 hl hm
  exact ⟨rfl, h0, Sim.ensureActive_lt ha, ha⟩

/-- **The life cycle of a measured qubit in the evaluator**, for every state and every access path (the guard and the three
operations take the qubit by index): (1) after a successful `measure q`, every further operation on `q` is refused with a
located runtime error — at whatever position it is attempted; (2) a built-in gate call — on any operands — leaves the
evaluator's flags exactly as they were, so neither a refusal nor a permission can be changed by operating on *other*
qubits; (3) after a successful `reset q` the guard lets `q` through again. -/
theorem measured_until_reset (st st' : EState) (q : Int) (p p' : P) :
    (∀ v, (measureQubit q p).run st = .ok (v, st') →
        (ensureQubitActive q p').run st' = .error (.runtime p'.line p'.col "qubit has already been measured")) ∧
    (∀ name argv, (applyBuiltin name argv p).run st = .ok ((), st') → st'.qubits = st.qubits) ∧
    ((resetQubit q p).run st = .ok ((), st') → (ensureQubitActive q p').run st' = .ok ((), st')) :=
  ⟨fun v h => measure_makes_unusable p' h,
   fun name argv h => by obtain ⟨_, rfl⟩ := applyBuiltin_ok h; rfl,
   fun h => reset_makes_usable p' h⟩

/-- the register a whole run hands back — whatever the program, the draws, the switches and the fuel —
carries exactly one measured flag per qubit (the agreement invariant, read off at the end of `execute`; a run that fails
hands back the empty register) -/
theorem a_run_ends_with_one_flag_per_qubit (prog : Program) (draws : List Float) (e l : Bool) (fuel : Nat) :
    (execute prog draws e l fuel).sim.measured.size = (execute prog draws e l fuel).sim.n := by
  obtain ⟨st, hp, hs, -⟩ := execute_state prog draws e l fuel (flags_agree_at_program_start prog draws e l)
    fun fn v st h => flags_agree_after_every_call fuel fn [] _ st v (flags_agree_at_program_start prog draws e l) h
  rw [hs]
  exact hp.flags

/-! ### non-vacuity -/
example : firstRefused [false, false] [.gate 0, .measure 0, .gate 1, .reset 0, .gate 0, .measureArr [0, 1], .cx 1 0] 0 = some 6 := by
  decide
example : measuredBy 0 false [.gate 0, .measure 0, .gate 1, .reset 0, .gate 0, .measureArr [0, 1]] = true := by decide

end BlochVerif.Props.C06
