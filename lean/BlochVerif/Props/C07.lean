import BlochVerif.Eval.Model
/-!
# C07 — classical evaluation agrees with the documented language semantics

The evaluator model (`Eval/Model.lean`) mirrors `runtime_evaluator.cpp` branch for branch and is
compared with the real interpreter on every generated program (echo lines, runtime-error
positions).  The theorems below state the *documented* rules (`docs/language/language-guide.md`,
`docs/casting.md`, `docs/language/semantics.md`) about that model, for all operand values of the
types each theorem names: int → long → float promotion, `/` always float, integer `%`, four
comparisons on int/long, string concatenation, five casts, bounds of `int[]` reads and writes.  A
change to the interpreter that breaks one of these rules makes the real code disagree with the
model on a program exercising the rule.

*Partial, named*: the statement layer (`exec`, `call`, scopes, loops) is the model's definition —
no separate doc-derived reference semantics is proved equivalent to it; float arithmetic is the
host's IEEE double on both sides (`Float` operations are uninterpreted in these statements).
-/
namespace BlochVerif.Props.C07
open BlochVerif.Eval BlochVerif.Parse

/-- the numeric kinds -/
def isNumeric (v : Value) : Bool := v.type == .Int || v.type == .Long || v.type == .Float

/-- the operand as a double (`int`/`long` converted, `float` as is) -/
def asFloat (v : Value) : Float := if v.type == .Float then v.floatValue else intToFloat (toInt64 v)

/-- operands that pass the reference, string, char and boolean branches of the cascade untouched -/
abbrev Plain (v : Value) : Prop :=
  isObjectLike v = false ∧ (v.type == .String) = false ∧ (v.type == .Char) = false ∧ (v.type == .Boolean) = false

theorem plain_of_numeric {v : Value} (h : isNumeric v = true) : Plain v := by
  simp only [isNumeric, Bool.or_eq_true, beq_iff_eq] at h
  rcases h with (h | h) | h <;> simp [Plain, isObjectLike, h]

theorem plain_of_integer {v : Value} (h : v.type = .Int ∨ v.type = .Long) : Plain v ∧ (v.type == .Float) = false := by
  rcases h with h | h <;> simp [Plain, isObjectLike, h]

/-- the documented promotion: float if either side is float, else long if either side is long, else 32-bit int -/
def promote (fi : Int → Int → Int) (ff : Float → Float → Float) (l r : Value) : Value :=
  if l.type == .Float || r.type == .Float then mkFloat (ff (asFloat l) (asFloat r))
  else if l.type == .Long || r.type == .Long then mkLong (wrap64 (fi (toInt64 l) (toInt64 r)))
  else mkInt (wrap32 (fi (toInt64 l) (toInt64 r)))

theorem arithmetic_promotes (l r : Value) (p : P) (hl : Plain l) (hr : Plain r) :
    binop "+" l r p = .ok (promote (· + ·) (· + ·) l r) ∧
    binop "-" l r p = .ok (promote (· - ·) (· - ·) l r) ∧
    binop "*" l r p = .ok (promote (· * ·) (· * ·) l r) := by
  refine ⟨?_, ?_, ?_⟩ <;>
    simp [binop, promote, asFloat, hl, hr, pure, Except.pure, apply_ite Except.ok]

theorem int_arithmetic_wraps_at_32_bits (l r : Value) (p : P) (hl : l.type = .Int) (hr : r.type = .Int) :
    binop "+" l r p = .ok (mkInt (wrap32 (l.intValue + r.intValue))) ∧
    binop "-" l r p = .ok (mkInt (wrap32 (l.intValue - r.intValue))) ∧
    binop "*" l r p = .ok (mkInt (wrap32 (l.intValue * r.intValue))) := by
  have hp : ∀ fi ff, promote fi ff l r = mkInt (wrap32 (fi l.intValue r.intValue)) := by
    intro fi ff; simp [promote, toInt64, hl, hr]
  simpa only [hp] using arithmetic_promotes l r p (plain_of_integer (.inl hl)).1 (plain_of_integer (.inl hr)).1

theorem int_and_long_promote_to_long (l r : Value) (p : P)
    (hl : l.type = .Int ∨ l.type = .Long) (hr : r.type = .Int ∨ r.type = .Long)
    (hlong : l.type = .Long ∨ r.type = .Long) :
    binop "+" l r p = .ok (mkLong (wrap64 (toInt64 l + toInt64 r))) ∧
    binop "-" l r p = .ok (mkLong (wrap64 (toInt64 l - toInt64 r))) ∧
    binop "*" l r p = .ok (mkLong (wrap64 (toInt64 l * toInt64 r))) := by
  obtain ⟨pl, fl⟩ := plain_of_integer hl
  obtain ⟨pr, fr⟩ := plain_of_integer hr
  have hp : ∀ fi ff, promote fi ff l r = mkLong (wrap64 (fi (toInt64 l) (toInt64 r))) := by
    intro fi ff; rcases hlong with h | h <;> simp [promote, fl, fr, h]
  simpa only [hp] using arithmetic_promotes l r p pl pr

theorem any_float_operand_promotes_to_float (l r : Value) (p : P) (hl : isNumeric l = true)
    (hr : isNumeric r = true) (hf : l.type = .Float ∨ r.type = .Float) :
    binop "+" l r p = .ok (mkFloat (asFloat l + asFloat r)) ∧
    binop "-" l r p = .ok (mkFloat (asFloat l - asFloat r)) ∧
    binop "*" l r p = .ok (mkFloat (asFloat l * asFloat r)) := by
  have hp : ∀ fi ff, promote fi ff l r = mkFloat (ff (asFloat l) (asFloat r)) := by
    intro fi ff; rcases hf with h | h <;> simp [promote, h]
  simpa only [hp] using arithmetic_promotes l r p (plain_of_numeric hl) (plain_of_numeric hr)

/-- **`/` always produces a float**, also for two ints; a zero divisor is a located runtime error -/
theorem division_always_produces_float (l r : Value) (p : P) (hl : isNumeric l = true)
    (hr : isNumeric r = true) :
    binop "/" l r p =
      if asFloat r == 0.0 then .error (.runtime p.line p.col "division by zero")
      else .ok (mkFloat (asFloat l / asFloat r)) := by
  simp [binop, asFloat, plain_of_numeric hl, plain_of_numeric hr, pure, Except.pure]

/-- **`%` is integer remainder** (truncated, sign of the dividend), long if either side is long;
    a zero divisor is a located runtime error; `x % -1 = 0` -/
theorem modulo_is_integer_remainder (l r : Value) (p : P)
    (hl : l.type = .Int ∨ l.type = .Long) (hr : r.type = .Int ∨ r.type = .Long) :
    binop "%" l r p =
      if toInt64 r = 0 then .error (.runtime p.line p.col "modulo by zero")
      else
        let rem := if toInt64 r = -1 then 0 else Int.tmod (toInt64 l) (toInt64 r)
        if l.type = .Long ∨ r.type = .Long then .ok (mkLong rem) else .ok (mkInt (wrap32 rem)) := by
  simp [binop, (plain_of_integer hl).1, (plain_of_integer hr).1, pure, Except.pure]

/-- **`+` with a string operand concatenates the printed forms**, whatever the other operand is -/
theorem plus_with_a_string_concatenates (l r : Value) (p : P) (h : l.type = .String ∨ r.type = .String) :
    binop "+" l r p = .ok (mkString (valueToString l ++ valueToString r)) := by
  rcases h with h | h <;> simp [binop, h, pure, Except.pure]

/-- `<`, `>=`, `==`, `!=` on int/long operands yield booleans, compared as 64-bit integers (`>`, `<=`
    and the comparison on doubles when a float is involved are not stated) -/
theorem comparisons_yield_booleans (l r : Value) (p : P)
    (hl : l.type = .Int ∨ l.type = .Long) (hr : r.type = .Int ∨ r.type = .Long) :
    binop "<" l r p = .ok (mkBool (decide (toInt64 l < toInt64 r))) ∧
    binop ">=" l r p = .ok (mkBool (decide (toInt64 l ≥ toInt64 r))) ∧
    binop "==" l r p = .ok (mkBool (toInt64 l == toInt64 r)) ∧
    binop "!=" l r p = .ok (mkBool (toInt64 l != toInt64 r)) := by
  refine ⟨?_, ?_, ?_, ?_⟩ <;> simp [binop, plain_of_integer hl, plain_of_integer hr, pure, Except.pure]

/-- `&&`, `||`, `==` on two booleans are the boolean connectives (`eval` evaluates both operands
    before it calls `binop`: the model, like the interpreter, is eager) -/
theorem logical_operators_on_booleans (a b : Bool) (p : P) :
    binop "&&" (mkBool a) (mkBool b) p = .ok (mkBool (a && b)) ∧
    binop "||" (mkBool a) (mkBool b) p = .ok (mkBool (a || b)) ∧
    binop "==" (mkBool a) (mkBool b) p = .ok (mkBool (a == b)) := by
  refine ⟨?_, ?_, ?_⟩ <;> simp [binop, mkBool, isObjectLike, pure, Except.pure, bind, Except.bind]

/-- `&`, `|`, `^` on two `bit` values, whatever integers they hold: `bitOp` reads each as "non-zero" -/
theorem bit_operands (l r : Value) (p : P) (hl : l.type = .Bit) (hr : r.type = .Bit) :
    binop "&" l r p = .ok (mkBit (bitOp "&" l.bitValue r.bitValue)) ∧
    binop "|" l r p = .ok (mkBit (bitOp "|" l.bitValue r.bitValue)) ∧
    binop "^" l r p = .ok (mkBit (bitOp "^" l.bitValue r.bitValue)) := by
  refine ⟨?_, ?_, ?_⟩ <;> simp [binop, isObjectLike, hl, hr, pure, Except.pure]

theorem bitwise_operators_on_bits (a b : Bool) (p : P) :
    binop "&" (mkBit (if a then 1 else 0)) (mkBit (if b then 1 else 0)) p = .ok (mkBit (if a && b then 1 else 0)) ∧
    binop "|" (mkBit (if a then 1 else 0)) (mkBit (if b then 1 else 0)) p = .ok (mkBit (if a || b then 1 else 0)) ∧
    binop "^" (mkBit (if a then 1 else 0)) (mkBit (if b then 1 else 0)) p = .ok (mkBit (if a != b then 1 else 0)) := by
  -- on 0 and 1 `bitOp` computes to the connective
  cases a <;> cases b <;> exact bit_operands _ _ p rfl rfl

/-- five cases of `docs/casting.md`: int → float and int → long keep the value, float → int is
    `static_cast<int>` (`floatToInt32`, truncation toward zero), float → bit is "non-zero", string →
    int is the located runtime error -/
theorem casts_follow_casting_md (v : Value) (p : P) :
    (v.type = .Int → castValue (.prim "float") v p = .ok (mkFloat (intToFloat v.intValue))) ∧
    (v.type = .Float → castValue (.prim "int") v p = .ok (mkInt (floatToInt32 v.floatValue))) ∧
    (v.type = .Float → castValue (.prim "bit") v p = .ok (mkBit (if v.floatValue != 0.0 then 1 else 0))) ∧
    (v.type = .Int → castValue (.prim "long") v p = .ok (mkLong v.intValue)) ∧
    (v.type = .String → castValue (.prim "int") v p = .error (.runtime p.line p.col "invalid cast operation")) := by
  refine ⟨?_, ?_, ?_, ?_, ?_⟩ <;> intro h <;> simp [castValue, h]

/-- reading an `int[]` value is bounds-checked: an index outside `[0, length)` is a located runtime
    error and an index inside returns that element (the other element types are not stated) -/
theorem array_reads_are_bounds_checked (xs : List Int) (i : Int) (p : P) :
    indexValue { type := .IntArray, intArray := xs } i p =
      if i < 0 ∨ i ≥ xs.length then .error (oob i xs.length p)
      else .ok (mkInt (xs.getD i.toNat 0)) := by
  unfold indexValue
  by_cases h : i < 0 ∨ i ≥ xs.length
  · simp [h, bind, Except.bind]
  · have h1 : ¬ i < 0 := fun x => h (Or.inl x)
    have h2 : ¬ (xs.length : Int) ≤ i := fun x => h (Or.inr x)
    simp [h1, h2, bind, Except.bind, pure, Except.pure]

/-- writing an `int` into an `int[]` value is bounds-checked and has value semantics (the result is
    a new array value); the other element types and the converting stores are not stated -/
theorem array_writes_are_bounds_checked (xs : List Int) (i : Int) (x : Int) (p : P) :
    arrayStore { type := .IntArray, intArray := xs } i (mkInt x) p =
      if i < 0 ∨ i ≥ xs.length then .error (oob i xs.length p)
      else .ok { type := .IntArray, intArray := xs.set i.toNat x } := by
  unfold arrayStore
  by_cases h : i < 0 ∨ i ≥ xs.length
  · simp [h, bind, Except.bind]
  · have h1 : ¬ i < 0 := fun x => h (Or.inl x)
    have h2 : ¬ (xs.length : Int) ≤ i := fun x => h (Or.inr x)
    simp [h1, h2, mkInt, bind, Except.bind, pure, Except.pure]

/-- an int bound to a `long` declaration, parameter or return type becomes a long of the same value -/
theorem int_bound_to_long_becomes_long (x : Int) :
    (widenFor (.prim "long") (mkInt x)).type = .Long ∧ (widenFor (.prim "long") (mkInt x)).longValue = x := by
  simp [widenFor, widenIntToLong, mkInt]

/-- assigning an int to a variable that holds a long keeps it a long -/
theorem int_assigned_to_long_variable_becomes_long (old : Value) (x : Int) (h : old.type = .Long) :
    (widenLike old (mkInt x)).type = .Long ∧ (widenLike old (mkInt x)).longValue = x := by
  simp [widenLike, widenIntToLong, mkInt, h]

/-- `widenFor` touches nothing else: a value that is not an int is stored as it is, whatever the declared type -/
theorem widening_is_only_int_to_long (ty : Ty) (v : Value) (h : v.type ≠ .Int) : widenFor ty v = v := by
  unfold widenFor
  split
  · simp [widenIntToLong, h]
  · rfl

/-! Non-vacuity: `"a" + true` concatenates; the type hypotheses of the int/long theorems hold of
`mkInt 7` and `mkInt 2`. -/
example : binop "+" (mkString "a") (mkBool true) {} = .ok (mkString ("a" ++ valueToString (mkBool true))) :=
  plus_with_a_string_concatenates _ _ _ (Or.inl rfl)

example : ((mkInt 7).type = .Int ∨ (mkInt 7).type = .Long) ∧ ((mkInt 2).type = .Int ∨ (mkInt 2).type = .Long) :=
  ⟨Or.inl rfl, Or.inl rfl⟩

end BlochVerif.Props.C07
