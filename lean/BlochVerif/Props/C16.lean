import BlochVerif.Sem.Compat
import BlochVerif.Sem.Scope
/-!
# C16 — the declared-type rule is the same rule in every position

`Sem.Compat` mirrors the five places of the analyser where a value meets a declared type.  For every pair of
known types each of them rejects exactly the incompatible pairs — the "in every syntactic position, and only
there" statement for the type rule.  `Sem.Scope` mirrors the analyser's handling of local variables on a statement
fragment; for the declaration rules (redeclaration, use before declaration) and `final` on local variables, the second
part proves that its walk accepts a statement exactly when the rules hold at every position in it.  The other rules of the
property (final fields, visibility, void, static/abstract, this/super, @quantum, @shots, null) are decided by the rule × position matrix of
`tools/semgen.py` on the real analyser (every violating program with its repaired twin); they are not modelled (PARTIAL).
-/
namespace BlochVerif.Props.C16
open BlochVerif.Sem

/-- expected types are declared types: never `null` -/
def Declared (e : Ty) : Prop := e.wf = true ∧ e ≠ .null

theorem objArr_beq (i j : Nat) : (CName.objArr i == CName.objArr j) = (i == j) := by
  rw [Bool.eq_iff_iff]; simp

theorem lt_eq_not_le (i j : Nat) : decide (j < i) = !decide (i ≤ j) := by
  rw [Bool.eq_iff_iff]; simp

theorem dec_eq_beq (i j : Nat) : decide (i = j) = (i == j) := rfl

macro "compat_simp" : tactic => `(tactic| ((try simp_all [Ty.wf, Ty.toTI, rejectsInit, rejectsAssign, rejectsFieldAssign,
  rejectsArg, rejectsReturn, compatible, isAssignable, matchesPrimitive, TI.hasName, TI.isArray, TI.isClassRef,
  TI.isUnknown, subclassOrSame, Ty.isPrim, objArr_beq, lt_eq_not_le, dec_eq_beq]) <;> try decide))

-- `compat_cases e a hn` decides a position theorem by brute force: it sweeps every pair of tags of `e` and `a` and lets
-- `compat_simp` evaluate the five position predicates on each pair; the proofs below go through `Shape` and use neither.
macro "compat_cases" e:ident a:ident hn:ident : tactic => `(tactic|
  (cases $e:ident with
   | prim p => cases $a:ident with
     | prim q => cases p <;> cases q <;> compat_simp
     | cls j => cases p <;> compat_simp
     | arr f => cases p <;> cases f <;> compat_simp
     | objArr j => cases p <;> compat_simp
     | null => cases p <;> compat_simp
   | cls i => cases $a:ident with
     | prim q => cases q <;> compat_simp
     | cls j => compat_simp
     | arr f => cases f <;> compat_simp
     | objArr j => compat_simp
     | null => compat_simp
   | arr x => cases $a:ident with
     | prim q => cases x <;> cases q <;> compat_simp
     | cls j => cases x <;> compat_simp
     | arr f => cases x <;> cases f <;> compat_simp
     | objArr j => cases x <;> compat_simp
     | null => cases x <;> compat_simp
   | objArr i => cases $a:ident with
     | prim q => cases q <;> compat_simp
     | cls j => compat_simp
     | arr f => cases f <;> compat_simp
     | objArr j => compat_simp
     | null => compat_simp
   | null => exact absurd rfl $hn:ident))

/-- what the analyser sees of a declared type: a known tag and no name, or a name and no tag -/
inductive Shape : TI → Prop
  | tagged {p} : p ≠ .unknown → p ≠ .null → Shape ⟨p, none⟩
  | named {c} : Shape ⟨.unknown, some c⟩

@[simp] theorem hasName_none (p : VT) : (⟨p, none⟩ : TI).hasName = false := rfl
@[simp] theorem hasName_some (p : VT) (c : CName) : (⟨p, some c⟩ : TI).hasName = true := rfl
@[simp] theorem isClassRef_none (p : VT) : (⟨p, none⟩ : TI).isClassRef = false := rfl
@[simp] theorem isArray_none (p : VT) : (⟨p, none⟩ : TI).isArray = false := rfl

theorem isClassRef_eq (t : TI) : t.isClassRef = (t.hasName && !t.isArray) := by
  unfold TI.isClassRef TI.hasName TI.isArray
  cases t.name with
  | none => rfl
  | some c => cases c <;> rfl

theorem matchesPrimitive_unknown (p : VT) : matchesPrimitive p .unknown = true := by
  simp [matchesPrimitive]

theorem matchesPrimitive_null {p : VT} (hu : p ≠ .unknown) (h0 : p ≠ .null) : matchesPrimitive p .null = false := by
  simp [matchesPrimitive, hu, h0]

theorem isAssignable_null {e a : TI} (ha : a.value = .null) : isAssignable e a = e.isClassRef := by
  simp [isAssignable, ha]

theorem isAssignable_tagged {p : VT} {a : TI} (hu : p ≠ .unknown) (h0 : p ≠ .null) :
    isAssignable ⟨p, none⟩ a = (!a.hasName && matchesPrimitive p a.value) := by
  unfold isAssignable
  by_cases hn : a.value = .null
  · simp [hn, matchesPrimitive_null hu h0]
  · by_cases hau : a.value = .unknown
    · simp [hu, hau, matchesPrimitive_unknown]
    · simp [hn, hu, hau]

theorem isAssignable_named_tagged {c : CName} {a : TI} (hn : a.value ≠ .null) (hu : a.value ≠ .unknown)
    (han : a.hasName = false) : isAssignable ⟨.unknown, some c⟩ a = false := by
  have hna : a.name = none := by simpa [TI.hasName] using han
  simp [isAssignable, hn, hu, han, TI.isArray, hna]

/-! Each position's guards, on types the analyser knows, are `!isAssignable`: split on "the value is `null`" and on
the two shapes of the declared type, never on the tags. -/

theorem rejectsInit_eq {e a : TI} (he : Shape e) (ha : a.isUnknown = false) :
    rejectsInit e a = !isAssignable e a := by
  unfold rejectsInit
  cases he with
  | tagged hu h0 => simp [hu, isAssignable_tagged hu h0]
  | named =>
    by_cases hn : a.value = .null
    · simp [hn, isAssignable_null, isClassRef_eq]
    · simp [hn, ha]

theorem rejectsAssign_eq {e a : TI} (ha : a.isUnknown = false) : rejectsAssign e a = !isAssignable e a := by
  unfold rejectsAssign
  by_cases hn : a.value = .null
  · simp [hn, isAssignable_null, isClassRef_eq]
  · simp [hn, ha]

theorem rejectsFieldAssign_eq {e a : TI} (he : Shape e) (ha : a.isUnknown = false) :
    rejectsFieldAssign e a = !isAssignable e a := by
  unfold rejectsFieldAssign
  by_cases hn : a.value = .null
  · cases he <;> simp [hn, isAssignable_null, isClassRef_eq]
  · cases he with
    | tagged hu h0 => simp [hn, hu, ha]
    | named => simp [hn, ha]

theorem rejectsArg_eq {e a : TI} (he : Shape e) (ha : a.isUnknown = false) :
    rejectsArg e a = !isAssignable e a := by
  unfold rejectsArg
  cases he with
  | tagged hu h0 =>
    by_cases hau : a.value = .unknown
    · simp [hu, hau, isAssignable_tagged hu h0, matchesPrimitive_unknown]
    · simp [bne_iff_ne.mpr hu, bne_iff_ne.mpr hau, isAssignable_tagged hu h0]
  | named =>
    by_cases hn : a.value = .null
    · simp [hn, isAssignable_null, isClassRef_eq]
    · by_cases han : a.hasName = true
      · simp [hn, han]
      · have hau : a.value ≠ .unknown := by simpa [TI.isUnknown, han] using ha
        simp [hn, han, hau, isAssignable_named_tagged hn hau (by simpa using han)]

theorem rejectsReturn_eq {e a : TI} (he : Shape e) : rejectsReturn e a = !isAssignable e a := by
  unfold rejectsReturn
  by_cases hn : a.value = .null
  · simp [hn, isAssignable_null, isClassRef_eq]
  · cases he with
    | tagged hu h0 => simp [hn, isAssignable_tagged hu h0]
    | named => simp [hn]

/-! The bridge to the declarative rule: on the images of source-level types `isAssignable` is `compatible`. -/

/-- the tag of a well-formed type is a known one (the only sweep over the tags) -/
theorem isPrim_known {p : VT} (h : Ty.isPrim p = true) : p ≠ .unknown ∧ p ≠ .null := by
  revert h; cases p <;> decide

theorem matchesPrimitive_known {p q : VT} (hp : Ty.isPrim p = true) (hq : Ty.isPrim q = true) :
    matchesPrimitive p q = (p == q || (p == .long && q == .int)) := by
  rw [matchesPrimitive, beq_false_of_ne (isPrim_known hp).1, beq_false_of_ne (isPrim_known hq).1]
  rfl

theorem toTI_shape {e : Ty} (he : Declared e) : Shape e.toTI := by
  obtain ⟨hw, hn⟩ := he
  cases e with
  | prim p => exact .tagged (isPrim_known hw).1 (isPrim_known hw).2
  | null => exact absurd rfl hn
  | _ => exact .named

theorem toTI_known {a : Ty} (ha : a.wf = true) : a.toTI.isUnknown = false := by
  cases a with
  | prim p => simp [Ty.toTI, TI.isUnknown, (isPrim_known ha).1]
  | _ => rfl

theorem isAssignable_toTI {e a : Ty} (he : Declared e) (ha : a.wf = true) :
    isAssignable e.toTI a.toTI = compatible e a := by
  obtain ⟨hw, hn⟩ := he
  cases e with
  | null => exact absurd rfl hn
  | prim p =>
    obtain ⟨hu, h0⟩ := isPrim_known hw
    rw [Ty.toTI, isAssignable_tagged hu h0]
    cases a with
    | prim q => simpa [Ty.toTI, compatible] using matchesPrimitive_known hw ha
    | null => simp [Ty.toTI, compatible, matchesPrimitive_null hu h0]
    | _ => simp [Ty.toTI, compatible]
  | _ =>
    cases a with
    | prim q =>
      obtain ⟨hu, h0⟩ := isPrim_known ha
      simp [Ty.toTI, compatible, isAssignable_named_tagged (a := ⟨q, none⟩) h0 hu rfl]
    | _ =>
      -- the 3 × 4 pairs of `cls`/`arr`/`objArr` with `cls`/`arr`/`objArr`/`null`
      simp [Ty.toTI, compatible, isAssignable, TI.hasName, TI.isArray, TI.isClassRef, subclassOrSame,
        Bool.beq_eq_decide_eq]

/-- `T v = init;` and field initialisers -/
theorem initialiser_enforces_the_rule (e a : Ty) (he : Declared e) (ha : a.wf = true) :
    rejectsInit e.toTI a.toTI = !compatible e a := by
  rw [rejectsInit_eq (toTI_shape he) (toTI_known ha), isAssignable_toTI he ha]

/-- `v = value;` on a declared variable -/
theorem assignment_enforces_the_rule (e a : Ty) (he : Declared e) (ha : a.wf = true) :
    rejectsAssign e.toTI a.toTI = !compatible e a := by
  rw [rejectsAssign_eq (toTI_known ha), isAssignable_toTI he ha]

/-- `f = value;`, `this.f = value;`, `obj.f = value;`, `Type.f = value;` -/
theorem field_assignment_enforces_the_rule (e a : Ty) (he : Declared e) (ha : a.wf = true) :
    rejectsFieldAssign e.toTI a.toTI = !compatible e a := by
  rw [rejectsFieldAssign_eq (toTI_shape he) (toTI_known ha), isAssignable_toTI he ha]

/-- arguments of functions, methods and constructors -/
theorem argument_enforces_the_rule (e a : Ty) (he : Declared e) (ha : a.wf = true) :
    rejectsArg e.toTI a.toTI = !compatible e a := by
  rw [rejectsArg_eq (toTI_shape he) (toTI_known ha), isAssignable_toTI he ha]

/-- `return value;` -/
theorem return_enforces_the_rule (e a : Ty) (he : Declared e) (ha : a.wf = true) :
    rejectsReturn e.toTI a.toTI = !compatible e a := by
  rw [rejectsReturn_eq (toTI_shape he), isAssignable_toTI he ha]

/-- consequently the five positions agree with each other on every pair of known types -/
theorem positions_agree (e a : Ty) (he : Declared e) (ha : a.wf = true) :
    rejectsInit e.toTI a.toTI = rejectsAssign e.toTI a.toTI ∧
    rejectsAssign e.toTI a.toTI = rejectsFieldAssign e.toTI a.toTI ∧
    rejectsFieldAssign e.toTI a.toTI = rejectsArg e.toTI a.toTI ∧
    rejectsArg e.toTI a.toTI = rejectsReturn e.toTI a.toTI := by
  rw [initialiser_enforces_the_rule e a he ha, assignment_enforces_the_rule e a he ha,
    field_assignment_enforces_the_rule e a he ha, argument_enforces_the_rule e a he ha,
    return_enforces_the_rule e a he ha]
  exact ⟨rfl, rfl, rfl, rfl⟩

theorem rule_spelled_out (e a : Ty) :
    compatible e a = true ↔
      (∃ p q, e = .prim p ∧ a = .prim q ∧ (p = q ∨ (p = .long ∧ q = .int))) ∨
      (∃ i j, e = .cls i ∧ a = .cls j ∧ i ≤ j) ∨
      (∃ i, e = .cls i ∧ a = .null) ∨
      (∃ x, e = .arr x ∧ a = .arr x) ∨
      (∃ i, e = .objArr i ∧ a = .objArr i) := by
  cases e <;> cases a <;> simp [compatible]
  -- left over: `arr`/`arr` and `objArr`/`objArr`, as `x = y ↔ y = x`
  · exact eq_comm
  · exact eq_comm

/-! ### non-vacuity -/
example : rejectsInit (Ty.prim .int).toTI (Ty.cls 0).toTI = true ∧ rejectsArg (Ty.cls 1).toTI (Ty.cls 0).toTI = true ∧
    rejectsReturn (Ty.cls 0).toTI (Ty.cls 1).toTI = false ∧ rejectsAssign (Ty.prim .long).toTI (Ty.prim .int).toTI = false := by
  decide

/- By the functional induction principles of the two walks: the numbered cases are their accepting paths (each builds the
derivation its constructor names), every other path ends in an error and is closed by `nofun`. -/
theorem checkExpr_sound (g : Scopes) (e : SExpr) : checkExpr g e = .ok () → WSExpr g e := by
  fun_induction checkExpr g e with
  | case1 => exact fun _ => .lit
  | case2 n f hl => exact fun _ => .var hl
  | case5 n e hl ih => exact fun h => .assign hl (ih h)
  | case8 n hl => exact fun _ => .post hl
  | case10 e ih => exact fun h => .un (ih h)
  | case11 a b ha iha ihb => exact fun h => .bin (iha ha) (ihb h)
  | case17 n i e f hl hi he hf ihi ihe =>
    cases f with
    | true => exact absurd rfl hf
    | false => exact fun _ => .store hl (ihi hi) (ihe he)
  | _ => nofun

theorem checkExpr_complete {g : Scopes} {e : SExpr} (h : WSExpr g e) : checkExpr g e = .ok () := by
  induction h with
  | lit => rfl
  | var hl => simp [checkExpr, hl]
  | assign hl _ ih => simp [checkExpr, hl, ih]
  | post hl => simp [checkExpr, hl]
  | un _ ih => simp [checkExpr, ih]
  | bin _ _ iha ihb => simp [checkExpr, iha, ihb]
  | store hl _ _ ihi ihe => simp [checkExpr, hl, ihi, ihe]

theorem checkStmt_sound (g : Scopes) (s : SStmt) : ∀ g', checkStmt g s = .ok g' → WS g s g' := by
  fun_induction checkStmt g s with
  | case1 => rintro _ ⟨⟩; exact .skip
  | case2 g a b g1 ha iha ihb => exact fun g' h => .seq (iha g1 ha) (ihb g' h)
  | case4 g s g1 hs ih => rintro _ ⟨⟩; exact .scope (ih g1 hs)
  | case8 g f n hl e he hf => rintro _ ⟨⟩; exact .declInit hl (checkExpr_sound g e he)
  | case10 g f n hl hf =>
    rintro _ ⟨⟩
    cases f with
    | true => exact absurd rfl hf
    | false => exact .declNoInit hl
  | case12 g n e hl he => rintro _ ⟨⟩; exact .assign hl (checkExpr_sound g e he)
  | case15 g e he => rintro _ ⟨⟩; exact .expr (checkExpr_sound g e he)
  | case18 g c t e hc g1 ht iht ihe => exact fun g' h => .ite (checkExpr_sound g c hc) (iht g1 ht) (ihe g' h)
  | case20 g c b hc ihb => exact fun g' h => .while (checkExpr_sound g c hc) (ihb g' h)
  | case25 g init c inc b g1 hi hc hn g2 hb ihi ihb =>
    rintro _ ⟨⟩
    exact .for (ihi g1 hi) (checkExpr_sound g1 c hc) (checkExpr_sound g1 inc hn) (ihb g2 hb)
  | case28 g c t e hc g1 ht iht ihe => exact fun g' h => .ternary (checkExpr_sound g c hc) (iht g1 ht) (ihe g' h)
  | case30 g e he => rintro _ ⟨⟩; exact .echo (checkExpr_sound g e he)
  | case32 g e he => rintro _ ⟨⟩; exact .ret (checkExpr_sound g e he)
  | _ => nofun

theorem checkStmt_complete {g g' : Scopes} {s : SStmt} (h : WS g s g') : checkStmt g s = .ok g' := by
  induction h with
  | skip => rfl
  | seq _ _ iha ihb => simp only [checkStmt, iha, ihb]
  | scope _ ih => simp only [checkStmt, ih]
  | declInit hl he => simp [checkStmt, hl, checkExpr_complete he]
  | declNoInit hl => simp [checkStmt, hl]
  | assign hl he => simp [checkStmt, hl, checkExpr_complete he]
  | expr he => simp [checkStmt, checkExpr_complete he]
  | ite hc _ _ iht ihe => simp [checkStmt, checkExpr_complete hc, iht, ihe]
  | «while» hc _ ihb => simp [checkStmt, checkExpr_complete hc, ihb]
  | «for» _ hc hn _ ihi ihb => simp [checkStmt, ihi, checkExpr_complete hc, checkExpr_complete hn, ihb]
  | ternary hc _ _ iht ihe => simp [checkStmt, checkExpr_complete hc, iht, ihe]
  | echo he => simp [checkStmt, checkExpr_complete he]
  | ret he => simp [checkStmt, checkExpr_complete he]

/-- The analyser's walk accepts a statement exactly when the declaration and `final` rules hold at every
position in it — statement, nested expression, loop header, branch of a ternary statement, inner block. -/
theorem declaration_and_final_rules_enforced_everywhere_and_only_there (g g' : Scopes) (s : SStmt) :
    checkStmt g s = .ok g' ↔ WS g s g' :=
  ⟨checkStmt_sound g s g', checkStmt_complete⟩

/-! non-vacuity: a final written in a for-header update, the same program with a plain variable, and a variable used in
its own initialiser -/
example : checkStmt [[]] (.seq (.decl true "k" (some .lit)) (.for (.decl false "i" (some .lit)) (.var "i") (.assign "k" .lit) .skip)) =
    .error (.finalWrite "k") := by
  simp [checkStmt, checkExpr, lookupSym, declareSym]
example : (checkStmt [[]] (.seq (.decl false "k" (some .lit)) (.for (.decl false "i" (some .lit)) (.var "i") (.assign "k" .lit) .skip))).isOk = true := by
  decide
example : checkStmt [[]] (.decl false "x" (some (.bin (.var "x") .lit))) = .error (.undeclared "x") := by
  simp [checkStmt, checkExpr, lookupSym]

end BlochVerif.Props.C16
