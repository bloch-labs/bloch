import BlochVerif.Eval.GateCall
import BlochVerif.Props.C07
/-!
# C12 — running an accepted program never crashes the interpreter

What a theorem about the evaluator *model* can carry: the operator layer is total, and whenever it refuses
an operation it does so with a runtime diagnostic located at the operator — in particular at the arithmetic
edge cases (division and modulo by zero, modulo by -1, wrap-around at the int/long boundaries) and at
out-of-range indices; and for the quantum operations, that in a state where the flags agree a gate call, a measurement and a
reset fail only with a diagnostic at their own position (`quantum_operations_fail_only_with_located_diagnostics`, from
`Eval/GateCall.lean`).  Memory safety of the C++ (no use after free, no raw C++ exception, no signal) is not a
property of the model: `tools/props/c12.py` observes it with an ASan+UBSan build on generated programs
(PARTIAL).
-/
namespace BlochVerif.Props.C12
open BlochVerif BlochVerif.Eval BlochVerif.Parse

/-- 32-bit wrap-around stays inside the int range: the model never produces an unrepresentable int -/
theorem wrap32_in_range (x : Int) : -2147483648 ≤ wrap32 x ∧ wrap32 x < 2147483648 := by
  simp only [wrap32]
  split <;> omega

theorem wrap64_in_range (x : Int) : -9223372036854775808 ≤ wrap64 x ∧ wrap64 x < 9223372036854775808 := by
  simp only [wrap64]
  split <;> omega

/-- modulo by zero is a located runtime error for every int operand, never a trap (the float comparison that
guards `/` is opaque to the kernel: division by zero is covered by the correspondence run only) -/
theorem modulo_by_zero_is_located (l : Value) (p : P) (hl : l.type = .Int) :
    binop "%" l (mkInt 0) p = .error (.runtime p.line p.col "modulo by zero") := by
  rw [C07.modulo_is_integer_remainder l _ p (.inl hl) (.inl rfl)]
  rfl

/-- `x % -1` is defined (0) for every int, including the minimum, where the hardware instruction traps -/
theorem modulo_by_minus_one_is_zero (l : Value) (p : P) (hl : l.type = .Int) :
    binop "%" l (mkInt (-1)) p = .ok (mkInt 0) := by
  rw [C07.modulo_is_integer_remainder l _ p (.inl hl) (.inl rfl)]
  simp [toInt64, mkInt, hl]
  rfl

theorem long_modulo_by_minus_one_is_zero (l : Value) (p : P) (hl : l.type = .Long) :
    binop "%" l (mkLong (-1)) p = .ok (mkLong 0) := by
  rw [C07.modulo_is_integer_remainder l _ p (.inr hl) (.inr rfl)]
  simp [toInt64, mkLong, hl]

/-- every refusal of `x` is a runtime diagnostic located at `p` -/
def Loc {α : Type} (p : P) (x : Except RErr α) : Prop := ∀ e, x = .error e → ∃ msg, e = .runtime p.line p.col msg

theorem loc_ok {α : Type} {p : P} (v : α) : Loc p (.ok v : Except RErr α) := by intro e h; cases h
theorem loc_err {α : Type} {p : P} (m : String) : Loc p (.error (.runtime p.line p.col m) : Except RErr α) := by
  intro e h; injection h with h; exact ⟨m, h.symm⟩
theorem loc_bind {α β : Type} {p : P} {x : Except RErr α} {f : α → Except RErr β} (hx : Loc p x) (hf : ∀ v, Loc p (f v)) :
    Loc p (x >>= f) := by
  intro e h
  cases x with
  | error e' => simp [bind, Except.bind] at h; subst h; exact hx e' rfl
  | ok v => exact hf v e h

/-- decompose a cascade of `if`s and binds down to its leaves, each of which is a value or an error at `p` -/
macro "loc_tac" : tactic => `(tactic| repeat' first
    | apply ite_ind
    | apply loc_bind
    | apply loc_ok
    | apply loc_err
    | intro _)

/-- The binary-operator cascade never fails in any other way than a runtime diagnostic at the operator's
position — whatever the operator string and the operand values (extreme ints and longs, mixed kinds, references). -/
theorem binop_refusals_are_located (op : String) (l r : Value) (p : P) : Loc p (binop op l r p) := by
  unfold binop
  loc_tac

theorem unop_refusals_are_located (op : String) (r : Value) (p : P) : Loc p (unop op r p) := by
  unfold unop
  loc_tac

theorem index_refusals_are_located (coll : Value) (i : Int) (p : P) : Loc p (indexValue coll i p) := by
  unfold indexValue
  simp only [oob]
  split <;> loc_tac

theorem store_refusals_are_located (arr : Value) (i : Int) (rhs : Value) (p : P) : Loc p (arrayStore arr i rhs p) := by
  unfold arrayStore
  simp only [oob]
  split <;> loc_tac

/-! ## quantum operations: the simulator's un-located refusals are unreachable -/

/-- In a state where the flags agree (`Eval.Agree` holds at program start and after every successful call: `Props/C06`), a built-in gate call,
a measurement and a reset either succeed or stop with a runtime diagnostic **at the position of the operation**: the
simulator's own checks, which know no source position, can never be what the user sees, because the evaluator's
located guard refuses first and the simulator accepts whatever the guard has let through. -/
theorem quantum_operations_fail_only_with_located_diagnostics (st : EState) (hi : Agree st) (p : P) (e : RErr) :
    (∀ name argv, (applyBuiltin name argv p).run st = .error e → ∃ msg, e = .runtime p.line p.col msg) ∧
    (∀ q, (measureQubit q p).run st = .error e → ∃ msg, e = .runtime p.line p.col msg) ∧
    (∀ q, (resetQubit q p).run st = .error e → ∃ msg, e = .runtime p.line p.col msg) :=
  ⟨fun _ _ h => applyBuiltin_errors_are_located hi h,
   fun _ h => measureQubit_errors_are_located hi h,
   fun _ h => resetQubit_errors_are_located hi h⟩

/-- the refusals do occur (the statement is not vacuous): `h` on a measured qubit stops at the call's position -/
example : (applyBuiltin "h" [{ type := .Qubit, qubit := 0 }] ⟨3, 7⟩).run
      { sim := { n := 1, amps := #[default, default], measured := #[true] },
        qubits := [{ name := "q", measured := true }], lookupFn := fun _ => none } =
    .error (.runtime 3 7 "qubit has already been measured") := by
  rfl

end BlochVerif.Props.C12
