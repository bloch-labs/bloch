import BlochVerif.Eval.Frame
/-!
# C09 — scoping is lexical

About the evaluator model's environment: `enterFrame` starts a frame of exactly one scope at every call,
`lookup` and `assignVar` consult only the innermost `frameDepth` scopes.  Hence the scopes of the caller
(everything below the current frame) can neither influence what a name evaluates to nor be changed by an
assignment in the callee — first for the primitives, then, through the evaluator's induction principle
(`Eval/Closed.lean`, `Eval/Frame.lean`), for every call of every function at every fuel:
`a_call_never_sees_or_changes_its_callers_environment`.  The renaming corollary of the property (consistent renaming
of a local never changes the output) is checked on the real pipeline and the model by `tools/props/c09.py`; an
alpha-equivalence theorem is not proved (PARTIAL), nor is the class fragment modelled.
-/
namespace BlochVerif.Props.C09
open BlochVerif BlochVerif.Eval BlochVerif.Parse

/-- A callee never sees its caller's locals: two states whose current frames coincide give every name the
same value, whatever the scopes below the frame (the caller's, the caller's caller's, …) contain. -/
theorem callee_never_sees_caller_locals (st1 st2 : EState) (name : String)
    (h : st1.env.take st1.frameDepth = st2.env.take st2.frameDepth) :
    ((lookup name).run st1).map (·.1) = ((lookup name).run st2).map (·.1) := by
  rw [run_lookup, run_lookup, h]
  rfl

/-- a call starts a frame consisting of one fresh, empty scope: no binding of the caller is in it -/
theorem call_starts_with_an_empty_frame (st : EState) :
    ∃ st', enterFrame.run st = .ok (st.frameDepth, st') ∧ st'.env.take st'.frameDepth = [[]] ∧
      st'.env.drop st'.frameDepth = st.env :=
  ⟨enterS st, rfl, rfl, rfl⟩

/-- A callee never changes its caller's locals: an assignment leaves every scope below the current frame
exactly as it was. -/
theorem callee_never_changes_caller_locals (st st' : EState) (name : String) (v : Value)
    (hd : 1 ≤ st.frameDepth) (hle : st.frameDepth ≤ st.env.length)
    (h : (assignVar name v).run st = .ok ((), st')) :
    st'.frameDepth = st.frameDepth ∧ st'.env.drop st'.frameDepth = st.env.drop st.frameDepth :=
  have ⟨_, hb, hf⟩ := (FrameInd.assignVar name v st ⟨hd, hle⟩).2 () st' h
  ⟨hf, hb⟩

/-- **Whole-evaluator form.**  Run any call of any function with any arguments in two states that differ only in
the caller's environment (all of it: its own frame and everything below) and frame depth: the result or the error
is the same, every other component of the final state is the same, and each run hands back exactly the environment
it was given.  No fuel bound, no restriction on the function body (loops, nested calls, recursion, blocks,
declarations, quantum statements). -/
theorem a_call_never_sees_or_changes_its_callers_environment (fuel : Nat) (fn : FuncDecl) (args : List Value)
    (st : EState) (env' : List Scope) (depth' : Nat) :
    (call fuel fn args).run { st with env := env', frameDepth := depth' } =
      ((call fuel fn args).run st).map (fun r => (r.1, { r.2 with env := env', frameDepth := depth' })) ∧
    ∀ v st', (call fuel fn args).run st = .ok (v, st') → st'.env = st.env ∧ st'.frameDepth = st.frameDepth :=
  call_cut_off fuel fn args st env' depth'

/-- inside a function body every statement, with the expressions and calls nested in it, leaves the scopes below the
current frame as they were and is unaffected by replacing them -/
theorem statements_are_frame_independent (fuel : Nat) (s : Stmt) : FrameInd (exec fuel s) := frameInd_exec fuel s

/-- non-vacuity: a state inside a frame, with a caller's scope below it, exists -/
example : FWF { sim := Sim.State.init Sim.floatOps, env := [[], [("x", { value := {} })]], frameDepth := 1 } := by
  unfold FWF; simp

end BlochVerif.Props.C09
