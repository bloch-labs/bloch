import BlochVerif.Cli.Model
import BlochVerif.Eval.Control
import Mathlib.Tactic.Ring
import Mathlib.Tactic.FieldSimp
import Mathlib.Data.Rat.Defs
import Mathlib.Algebra.Order.Field.Basic
import Mathlib.Algebra.Order.Field.Rat
/-!
# C17 — @tracked/@shots reporting

`Cli.Model` mirrors the reporting logic of `cli.cpp`; the evaluator model records tracked outcomes in
`endScope` (`bump`, `trackedOutcome`).  Theorems: the annotation wins over the flag; echo policy; adding a
shot's table to the aggregate adds its counts, so the aggregate's total per variable is the sum of the
per-shot totals (N × exits when every shot has the same number of exits); probabilities are count / the
variable's own total, lie in [0,1] and sum to 1; each recorded exit adds exactly one outcome; the outcome
string of a register is the concatenation of its elements' last measurements or '?'.  For the whole evaluator: the table
keeps one row per (variable, outcome) and no count goes down, whatever a program does (`tracked_prims`, through the
evaluator's induction principle), and a run with the echo switched off echoes nothing.
-/
namespace BlochVerif.Props.C17
open BlochVerif.Cli

/-- `@shots(N)` on main takes precedence over `--shots`, whatever the flag says -/
theorem annotation_takes_precedence (cli : Option Nat) (a : Nat) : resolveShots cli (some a) = (true, a) := by
  cases cli <;> rfl

theorem flag_used_only_without_annotation (c : Nat) : resolveShots (some c) none = (true, c) := rfl

/-- when the echo switch is off, no program prints anything: for every program, draw sequence and fuel (the
evaluator's induction principle applied to the relation "only forward", `Eval/Control.lean`) -/
theorem a_quiet_run_echoes_nothing (prog : Parse.Program) (draws : List Float) (logOps : Bool) (fuel : Nat) :
    (Eval.execute prog draws false logOps fuel).echo = [] := Eval.execute_quiet prog draws logOps fuel

/-- echo output appears exactly when `--echo=all`, or the option is absent/auto and a single shot is run -/
theorem echo_policy (opt : Option String) (cli ann : Option Nat) :
    echoAll opt (resolveShots cli ann).1 (resolveShots cli ann).2 = true ↔
      opt = some "all" ∨ ((opt = none ∨ opt = some "" ∨ opt = some "auto") ∧ (resolveShots cli ann).2 = 1) := by
  have hprov : (resolveShots cli ann).1 = false → (resolveShots cli ann).2 = 1 := by
    cases cli <;> cases ann <;> simp [resolveShots]
  generalize (resolveShots cli ann).1 = p at *
  generalize (resolveShots cli ann).2 = n at *
  unfold echoAll
  cases opt with
  | none => cases p <;> simp_all
  | some s =>
    by_cases h1 : s = ""
    · subst h1; cases p <;> simp_all
    · by_cases h2 : s = "auto"
      · subst h2; cases p <;> simp_all
      · simp [h1, h2]

def KeysNodup (t : Table) : Prop := (t.map (·.1)).Nodup

theorem map_noop (t : Table) (k : String × String) (n : Nat) (h : ∀ e ∈ t, e.1 ≠ k) :
    t.map (fun e => if e.1 = k then (e.1, e.2 + n) else e) = t := by
  induction t with
  | nil => rfl
  | cons e rest ih =>
    have he := h e (List.mem_cons_self ..)
    simp only [List.map_cons, he, if_false]
    rw [ih (fun e' h' => h e' (List.mem_cons_of_mem _ h'))]

theorem total_cons (e : (String × String) × Nat) (t : Table) (v : String) :
    Table.total (e :: t) v = (if e.1.1 = v then e.2 else 0) + Table.total t v := by
  unfold Table.total
  by_cases hv : e.1.1 = v <;> simp [hv]

theorem add_total (t : Table) (hnd : KeysNodup t) (k : String × String) (n : Nat) (v : String) :
    (t.add k n).total v = t.total v + (if k.1 = v then n else 0) := by
  induction t with
  | nil => rw [Table.add, if_neg (by simp), List.nil_append, total_cons]; exact Nat.add_comm _ _
  | cons e rest ih =>
    obtain ⟨hnot, hnd'⟩ := List.nodup_cons.mp hnd
    by_cases hek : e.1 = k
    · have hrest : ∀ e' ∈ rest, e'.1 ≠ k := fun e' he' heq =>
        hnot (List.mem_map.mpr ⟨e', he', heq.trans hek.symm⟩)
      rw [Table.add, if_pos (by simp [hek]), List.map_cons, if_pos hek, map_noop rest k n hrest, total_cons, total_cons,
        ← hek]
      split <;> omega
    · have hadd : Table.add (e :: rest) k n = e :: Table.add rest k n := by
        simp only [Table.add, List.any_cons, hek, decide_false, Bool.false_or, List.map_cons, if_false]
        split <;> rfl
      rw [hadd, total_cons, total_cons, ih hnd']
      omega

theorem add_keysNodup (t : Table) (hnd : KeysNodup t) (k : String × String) (n : Nat) : KeysNodup (t.add k n) := by
  unfold Table.add
  by_cases hany : t.any (fun e => decide (e.1 = k)) = true
  · rw [if_pos hany]
    unfold KeysNodup at hnd ⊢
    have : (t.map (fun e => if e.1 = k then (e.1, e.2 + n) else e)).map (·.1) = t.map (·.1) := by
      rw [List.map_map]
      apply List.map_congr_left
      intro e _
      simp only [Function.comp]
      split <;> rfl
    rw [this]; exact hnd
  · rw [if_neg hany]
    unfold KeysNodup at hnd ⊢
    rw [List.map_append, List.map_cons, List.map_nil]
    refine List.nodup_append.mpr ⟨hnd, by simp, ?_⟩
    intro a ha b hb
    simp only [List.mem_singleton] at hb
    subst hb
    intro heq
    apply hany
    obtain ⟨e, he, hek⟩ := List.mem_map.mp ha
    exact List.any_eq_true.mpr ⟨e, he, by simp [hek, heq]⟩

theorem merge_total (shot : Table) : ∀ (agg : Table), KeysNodup agg → ∀ v,
    KeysNodup (agg.merge shot) ∧ (agg.merge shot).total v = agg.total v + shot.total v := by
  induction shot with
  | nil => intro agg h v; exact ⟨h, by simp [Table.merge, Table.total]⟩
  | cons e rest ih =>
    intro agg h v
    have h1 := add_keysNodup agg h e.1 e.2
    obtain ⟨h2, h3⟩ := ih (agg.add e.1 e.2) h1 v
    refine ⟨by simpa [Table.merge] using h2, ?_⟩
    have : (agg.merge (e :: rest)) = (agg.add e.1 e.2).merge rest := by simp [Table.merge]
    rw [this, h3, add_total agg h, total_cons]
    omega

/-- The aggregate table is the per-shot tables added together: a variable's total is the sum of its
per-shot totals, in whatever order the shots ran. -/
theorem aggregate_total (shots : List Table) (v : String) :
    (aggregate shots).total v = (shots.map (·.total v)).sum := by
  suffices H : ∀ (agg : Table), KeysNodup agg →
      (shots.foldl Table.merge agg).total v = agg.total v + (shots.map (·.total v)).sum by
    simpa [aggregate, Table.total] using H [] (by simp [KeysNodup])
  induction shots with
  | nil => intro agg _; simp
  | cons s rest ih =>
    intro agg h
    obtain ⟨h1, h2⟩ := merge_total s agg h v
    rw [List.foldl_cons, ih _ h1, h2]
    simp only [List.map_cons, List.sum_cons]
    omega

/-- so with the same number `e` of scope exits in each of `n` shots the counts sum to `n * e` -/
theorem counts_sum_to_shots_times_exits (shots : List Table) (v : String) (e : Nat)
    (h : ∀ s ∈ shots, s.total v = e) : (aggregate shots).total v = shots.length * e := by
  rw [aggregate_total]
  induction shots with
  | nil => simp
  | cons s rest ih =>
    simp only [List.map_cons, List.sum_cons, List.length_cons]
    rw [ih (fun s' hs' => h s' (List.mem_cons_of_mem _ hs')), h s (List.mem_cons_self ..)]
    ring

theorem sum_map_div (l : List Nat) (T : ℚ) : (l.map (fun (c : Nat) => (c : ℚ) / T)).sum = ((l.sum : Nat) : ℚ) / T := by
  induction l with
  | nil => simp
  | cons c rest ih => rw [List.map_cons, List.sum_cons, List.sum_cons, ih, Nat.cast_add, add_div]

theorem mem_le_sum (l : List Nat) (c : Nat) (h : c ∈ l) : c ≤ l.sum := by
  induction l with
  | nil => cases h
  | cons x rest ih =>
    rcases List.mem_cons.mp h with rfl | h'
    · simp
    · have := ih h'; simp only [List.sum_cons]; omega

/-- the probabilities printed for one variable are counts divided by that variable's own total: each lies in
[0,1] and together they sum to 1 -/
theorem probabilities_form_a_distribution (t : Table) (v : String) (hpos : 0 < t.total v) :
    (((t.filter (fun e => e.1.1 = v)).map (·.2)).map (fun (c : Nat) => (c : ℚ) / (t.total v : ℚ))).sum = 1 ∧
    ∀ (c : Nat), c ∈ (t.filter (fun e => e.1.1 = v)).map (·.2) →
      0 ≤ (c : ℚ) / (t.total v : ℚ) ∧ (c : ℚ) / (t.total v : ℚ) ≤ 1 := by
  have hT : (0 : ℚ) < (t.total v : ℚ) := by exact_mod_cast hpos
  constructor
  · rw [sum_map_div]
    unfold Table.total at hT ⊢
    exact div_self (ne_of_gt hT)
  · intro c hc
    have hle : c ≤ t.total v := by
      unfold Table.total
      exact mem_le_sum _ c hc
    constructor
    · exact div_nonneg (Nat.cast_nonneg c) (le_of_lt hT)
    · rw [div_le_one hT]; exact_mod_cast hle

open BlochVerif.Eval

def trTotal (tr : List (String × String × Nat)) (key : String) : Nat :=
  ((tr.filter (·.1 == key)).map (·.2.2)).sum

def TrNodup (tr : List (String × String × Nat)) : Prop := (tr.map (fun t => (t.1, t.2.1))).Nodup

/-- an entry of the evaluator's table, read as an entry of a `Cli.Table` -/
def asEntry (t : String × String × Nat) : (String × String) × Nat := ((t.1, t.2.1), t.2.2)

theorem trTotal_eq (tr : List (String × String × Nat)) (k : String) : trTotal tr k = Table.total (tr.map asEntry) k := by
  rw [trTotal, Table.total, List.filter_map, List.map_map]
  rfl

theorem trNodup_iff (tr : List (String × String × Nat)) : TrNodup tr ↔ KeysNodup (tr.map asEntry) := by
  simp [TrNodup, KeysNodup, List.map_map, Function.comp_def, asEntry]

/-- the evaluator's `bump` is the aggregate's `Table.add` of one count -/
theorem bump_eq_add (tr : List (String × String × Nat)) (key outcome : String) :
    (bump tr key outcome).map asEntry = Table.add (tr.map asEntry) (key, outcome) 1 := by
  have hp : ∀ t : String × String × Nat, (asEntry t).1 = (key, outcome) ↔ t.1 = key ∧ t.2.1 = outcome :=
    fun _ => Prod.ext_iff
  unfold bump Table.add
  simp only [List.any_map, Function.comp_def, hp]
  split
  · rw [List.map_map, List.map_map]
    exact List.map_congr_left fun t _ => by by_cases h : t.1 = key ∧ t.2.1 = outcome <;> simp [h, asEntry]
  · rw [List.map_append]
    rfl

/-- every recorded scope exit adds exactly one outcome to the variable's counts and leaves the others alone -/
theorem bump_adds_exactly_one (tr : List (String × String × Nat)) (hnd : TrNodup tr) (key outcome k : String) :
    trTotal (bump tr key outcome) k = trTotal tr k + (if key = k then 1 else 0) := by
  rw [trTotal_eq, trTotal_eq, bump_eq_add, add_total _ ((trNodup_iff tr).mp hnd)]

/-- the outcome of a single tracked qubit: its last measurement, or '?' when it was never measured (or reset
since) -/
theorem qubit_outcome (lm : List Int) (v : Value) (h : v.type = .Qubit) :
    trackedOutcome lm v = some ("qubit ", outcomeChar lm v.qubit) := by
  simp [trackedOutcome, h]

theorem outcomeChar_spec (lm : List Int) (q : Int) :
    outcomeChar lm q = (match lastOf lm q with | some b => if b != 0 then "1" else "0" | none => "?") := rfl

/-- the outcome of a tracked register: '?' if any element is unmeasured at that moment, otherwise the bit
string of the elements' last measurements in index order -/
theorem register_outcome (lm : List Int) (v : Value) (h : v.type = .QubitArray) :
    trackedOutcome lm v = some ("qubit[] ",
      if v.qubitArray.all (fun q => (lastOf lm q).isSome) then String.join (v.qubitArray.map (outcomeChar lm))
      else "?") := by
  simp only [trackedOutcome, h]
  by_cases ha : v.qubitArray.all (fun q => (lastOf lm q).isSome) = true <;> simp [ha]

/-! ## every scope exit records each tracked variable exactly once -/

theorem bump_preserves_nodup (tr : List (String × String × Nat)) (hnd : TrNodup tr) (key outcome : String) :
    TrNodup (bump tr key outcome) := by
  rw [trNodup_iff, bump_eq_add]
  exact add_keysNodup _ ((trNodup_iff tr).mp hnd) _ _

/-- what one variable of the ending scope contributes -/
def recordEntry (lm : List Int) (tr : List (String × String × Nat)) (kv : String × VarEntry) :
    List (String × String × Nat) :=
  if !kv.2.tracked then tr else
  match trackedOutcome lm kv.2.value with
  | some (pre, outcome) => bump tr (pre ++ kv.1) outcome
  | none => tr

/-- the key under which a variable of the ending scope is recorded, if it is recorded at all -/
def recordKey (lm : List Int) (kv : String × VarEntry) : Option String :=
  if !kv.2.tracked then none else (trackedOutcome lm kv.2.value).map (fun po => po.1 ++ kv.1)

theorem recordEntry_total (lm : List Int) (tr : List (String × String × Nat)) (hnd : TrNodup tr)
    (kv : String × VarEntry) (k : String) :
    TrNodup (recordEntry lm tr kv) ∧
    trTotal (recordEntry lm tr kv) k = trTotal tr k + (if recordKey lm kv = some k then 1 else 0) := by
  unfold recordEntry recordKey
  by_cases ht : kv.2.tracked = true
  · simp only [ht, Bool.not_true, Bool.false_eq_true, if_false]
    cases ho : trackedOutcome lm kv.2.value with
    | none => simp [hnd]
    | some po =>
      obtain ⟨pre, outcome⟩ := po
      simp only [Option.map_some, Option.some.injEq]
      exact ⟨bump_preserves_nodup tr hnd _ _, bump_adds_exactly_one tr hnd _ _ k⟩
  · simp [ht, hnd]

/-- Ending a scope adds, for every variable key, exactly the number of tracked qubits / registers of that scope
recorded under that key — one outcome per tracked variable per exit, nothing for the others. -/
theorem scope_exit_records_each_tracked_variable_once (lm : List Int) (top : List (String × VarEntry))
    (tr : List (String × String × Nat)) (hnd : TrNodup tr) (k : String) :
    TrNodup (top.foldl (recordEntry lm) tr) ∧
    trTotal (top.foldl (recordEntry lm) tr) k =
      trTotal tr k + (top.filter (fun kv => recordKey lm kv = some k)).length := by
  induction top generalizing tr with
  | nil => simp [hnd]
  | cons kv rest ih =>
    obtain ⟨h1, h2⟩ := recordEntry_total lm tr hnd kv k
    obtain ⟨h3, h4⟩ := ih (recordEntry lm tr kv) h1
    refine ⟨by simpa using h3, ?_⟩
    simp only [List.foldl_cons, h4, h2, List.filter_cons]
    by_cases hk : recordKey lm kv = some k
    · simp [hk]; omega
    · simp [hk]

/-- the evaluator model's `endScope` is that fold over the innermost scope -/
theorem endScope_is_the_fold (st : EState) (top : List (String × VarEntry)) (rest : List Scope)
    (he : st.env = top :: rest) :
    ∃ st', endScope.run st = .ok ((), st') ∧ st'.env = rest ∧
      st'.tracked = top.foldl (recordEntry st.lastMeasurement) st.tracked := by
  refine ⟨endS st, rfl, ?_, ?_⟩
  · simp only [endS, he]
  · simp only [endS, he]
    rfl

/-! ## whole-evaluator form: counts are never lost and the table stays keyed -/
open BlochVerif BlochVerif.Parse

/-- the table has one row per (variable, outcome) -/
def Keyed (st : EState) : Prop := TrNodup st.tracked

def CountsGrow (s s' : EState) : Prop := ∀ k, trTotal s.tracked k ≤ trTotal s'.tracked k

theorem trk_endScope : Hoare Keyed CountsGrow endScope :=
  Hoare.of_run _ endS (fun _ => rfl) fun st hi => by
    unfold endS
    split
    · exact ⟨hi, fun _ => Nat.le_refl _⟩
    · rename_i top _ _
      have h := scope_exit_records_each_tracked_variable_once st.lastMeasurement top st.tracked hi
      exact ⟨(h "").1, fun k => (h k).2 ▸ Nat.le_add_right _ _⟩

/-- the only primitive that touches the table is `endScope` -/
theorem tracked_prims : PrimsHoare Keyed CountsGrow :=
  have same : ∀ st : EState, Keyed st → Keyed st ∧ CountsGrow st st := fun _ hi => ⟨hi, fun _ => Nat.le_refl _⟩
  .of_quantum (fun _ _ => Nat.le_refl _) (fun _ _ _ h1 h2 k => Nat.le_trans (h1 k) (h2 k))
    (fun st _ _ _ _ hi => same st hi) trk_endScope
    (Hoare.echoLine_of_frame (fun _ _ => Nat.le_refl _) fun st _ hi => same st hi)
    (fun st _ _ _ _ hi => same st hi) (fun st _ _ _ _ _ hi => same st hi)

/-- **Whatever a program does** — any function, any body, any fuel — the tracked table keeps one row per (variable,
outcome) and no count ever goes down: what a scope exit has recorded survives every later statement, call and scope exit of
the shot, so the per-shot table the aggregate is built from holds every record that was made (induction principle of the
evaluator model; the only primitive that touches the table is `endScope`, which is the fold of
`scope_exit_records_each_tracked_variable_once`). -/
theorem a_program_never_loses_a_tracked_count (fuel : Nat) (fn : FuncDecl) (args : List Value) (st st' : EState)
    (v : Value) (hi : TrNodup st.tracked) (h : (call fuel fn args).run st = .ok (v, st')) :
    TrNodup st'.tracked ∧ ∀ k, trTotal st.tracked k ≤ trTotal st'.tracked k :=
  hoare_call tracked_prims fuel fn args st hi v st' h

/-- the empty table a shot starts with is keyed -/
example : TrNodup ([] : List (String × String × Nat)) := by simp [TrNodup]

/-- the table a whole run hands back — whatever the program, the draws, the switches and the fuel — has one
row per (variable, outcome): the aggregate over shots adds rows that are well defined (a run that fails hands back the
empty table) -/
theorem a_run_ends_with_a_keyed_table (prog : Program) (draws : List Float) (e l : Bool) (fuel : Nat) :
    TrNodup (execute prog draws e l fuel).tracked := by
  have h0 : TrNodup ([] : List (String × String × Nat)) := by simp [TrNodup]
  obtain ⟨st, hp, -, ht, -⟩ := execute_state prog draws e l fuel (P := Keyed) h0
    fun fn v st h => (a_program_never_loses_a_tracked_count fuel fn [] _ st v h0 h).1
  rw [ht]
  exact hp

end BlochVerif.Props.C17
