import BlochVerif.Parse.Model
import BlochVerif.Generated.ParserConsts
import BlochVerif.Parse.PrattCore
import BlochVerif.Generated.BindingTable
/-!
# C14 — the parser realises the documented grammar

Three layers, stated separately so that none is mistaken for another; the first two are theorems of this file, the
third is not a theorem:

1. `table_matches_grammar` — the Pratt binding-power table **regenerated from `parser.cpp` on this
   run** has the level order of `docs/grammar.md`, every infix operator is left-associative
   (`rbp = lbp + 1`), and the prefix power sits strictly between the multiplicative level and the
   postfix level.  A changed binding power breaks this obligation.
2. `pratt_core_roundtrip_partial` — for the Pratt loop as an algorithm (binary levels, a prefix
   operator, the postfix forms `e++`, `e[i]`, `e.name`, `e()`, `e(arg)`, parentheses) instantiated
   with that table, parsing the minimal-parenthesis rendering of **any** tree returns the tree
   modulo parentheses.  *Partial*: the theorem is about the abstract core `Parse/PrattCore.lean`,
   not about the full concrete parser model `Parse/Model.lean` (argument lists, the refusal of a
   negative literal index, casts, `measure`, `new`, array literals, assignment, statements,
   classes).  The full statement — `strip (parse (lex (render t))) =
   strip t` for every well-formed tree of the whole grammar — is checked on the real parser and on
   the concrete model by exhaustive enumeration of small trees and random larger ones (the
   correspondence run), not proved.  `pratt_core_fuel_monotone`: the fuel `f` that the round trip finds can be
   any larger one.
3. the concrete parser model agrees with the real parser token for token (positions included) on
   every input of the C13/C14 runs: checked by the correspondence run, nothing in this file states it.

Besides, `parser_constants_are_the_source_constants` ties the model's nesting limit and its list of primitive type
keywords to the constants regenerated from `parser.hpp`/`parser.cpp`.
-/
namespace BlochVerif.Props.C14
open BlochVerif.Generated BlochVerif.Parse

def lbpOfName (n : String) : Option Nat := (infixTable.find? (·.1 == n)).map (·.2.1)
def rbpOfName (n : String) : Option Nat := (infixTable.find? (·.1 == n)).map (·.2.2.1)

/-- the documented binary levels, lowest first (docs/grammar.md: logicalOr … multiplicative) -/
def documentedLevels : List (List String) :=
  [["PipePipe"], ["AmpersandAmpersand"], ["Pipe"], ["Caret"], ["Ampersand"],
   ["EqualEqual", "BangEqual"], ["Greater", "Less", "GreaterEqual", "LessEqual"],
   ["Plus", "Minus"], ["Star", "Slash", "Percent"]]

def infixEntries : List (String × Nat × Nat × Bool) := infixTable.filter (fun e => !e.2.2.2)
def postfixEntries : List (String × Nat × Nat × Bool) := infixTable.filter (fun e => e.2.2.2)

/-- same level ⇒ same power; consecutive documented levels ⇒ strictly increasing power -/
def levelsOrdered : List (List String) → Bool
  | [] => true
  | [l] => (l.map lbpOfName).all (fun x => x.isSome && x == (lbpOfName l.head!))
  | l :: l' :: rest =>
    (l.map lbpOfName).all (fun x => x.isSome && x == (lbpOfName l.head!)) &&
    (match lbpOfName l.head!, lbpOfName l'.head! with
      | some a, some b => a < b
      | _, _ => false) && levelsOrdered (l' :: rest)

/-- **The regenerated table realises the documented precedence and associativity.** -/
theorem table_matches_grammar :
    -- the table has as many infix rows as the grammar documents binary operators, and every documented operator has a
    -- row (`lbpOfName` looks through all rows, the postfix ones too)
    (infixEntries.map (·.1)).length = documentedLevels.flatten.length ∧
    documentedLevels.flatten.all (fun n => (lbpOfName n).isSome) = true ∧
    -- level order of the grammar
    levelsOrdered documentedLevels = true ∧
    -- left-associative: rbp = lbp + 1
    infixEntries.all (fun e => e.2.2.1 == e.2.1 + 1) = true ∧
    -- prefix operators bind tighter than every binary operator and looser than postfix
    infixEntries.all (fun e => e.2.1 < prefixBindingPower) = true ∧
    postfixEntries.all (fun e => prefixBindingPower < e.2.1) = true ∧
    -- the postfix forms the grammar lists (call, index, ++/--) plus member access, one level
    (postfixEntries.map (·.1)) = ["Dot", "LParen", "LBracket", "PlusPlus", "MinusMinus"] ∧
    postfixEntries.all (fun e => e.2.1 == PrattCore.POST) = true ∧
    prefixBindingPower = PrattCore.PRE := by
  decide

/-- left binding power of the `k`-th binary operator of the regenerated table (0 past the end) -/
def generatedLbp (k : Nat) : Nat := ((infixEntries[k]?).map (·.2.1)).getD 0

theorem generatedLbp_lt_PRE (k : Nat) : generatedLbp k < PrattCore.PRE := by
  obtain ⟨-, -, -, -, hall, -, -, -, hpre⟩ := table_matches_grammar
  unfold generatedLbp
  cases h : infixEntries[k]? with
  | none => exact Nat.zero_lt_succ _
  | some e => simpa [← hpre] using List.all_eq_true.mp hall e (List.mem_of_getElem? h)

/-- **Round trip for the Pratt core with the regenerated table** (partial, see the header): for
    every tree over the table's binary operators, the prefix operator, the postfix forms (`e++`, `e[i]`,
    `e.name`, `e()`, `e(arg)`) and parentheses, every minimum binding power `m` and every continuation `rest` that cannot extend
    the expression, parsing the minimal-parenthesis rendering returns the tree modulo parentheses
    and leaves exactly `rest`. -/
theorem pratt_core_roundtrip_partial (e : PrattCore.E) (m : Nat) (rest : List PrattCore.Tok)
    (hs : PrattCore.stops generatedLbp m rest) :
    ∃ f e', PrattCore.pratt generatedLbp f m (PrattCore.rend generatedLbp m e ++ rest) = some (e', rest) ∧
      PrattCore.strip e' = PrattCore.strip e :=
  PrattCore.roundtrip generatedLbp generatedLbp_lt_PRE e m rest hs

/-- more fuel never changes a successful parse of the Pratt core: the `f` of the round trip can be any larger one -/
theorem pratt_core_fuel_monotone {f f' m : Nat} {ts : List PrattCore.Tok}
    {r : PrattCore.E × List PrattCore.Tok} (h : f ≤ f')
    (hp : PrattCore.pratt generatedLbp f m ts = some r) : PrattCore.pratt generatedLbp f' m ts = some r :=
  PrattCore.mono_pratt h hp

/-! Non-vacuity: the hypothesis `stops` of the round trip holds at the end of input; one rendering over the regenerated table. -/
example : PrattCore.stops generatedLbp 0 [] := trivial
/-- the rendering of `-(f(1)[2].3)` needs no parentheses: postfix forms bind tighter than prefix -/
example : PrattCore.rend generatedLbp 0 (.neg (.member (.index (.call1 (.num 0) (.num 1)) (.num 2)) 3)) =
    [.neg, .num 0, .lp, .num 1, .rp, .lb, .num 2, .rb, .dot 3] := by decide

open BlochVerif BlochVerif.Lex

def sameSet (a b : List TokenType) : Bool := a.all (b.contains ·) && b.all (a.contains ·)

/-- `Generated/ParserConsts.lean` is rewritten on every run from `parser.hpp`/`parser.cpp`: the model's nesting limit is
`kMaxNestingDepth`, and each of the four `if (check(…) || …)` chains over the primitive type keywords (type lookahead,
`for` initialiser, `parseType`, `parsePrimitiveType`) lists exactly the model's `primTypeToks` (the lookahead also `void`).
The `switch` in the type-argument scan (`canAppearInTypeArgs`), which lists them as well, is not covered. -/
theorem parser_constants_are_the_source_constants :
    maxNestingDepth = Generated.maxNestingDepthSrc ∧
    Generated.primitiveTypeKeywordSites.map (·.1) = ["isTypeAhead", "parseFor", "parseType", "parsePrimitiveType"] ∧
    Generated.primitiveTypeKeywordSites.all (fun s => sameSet (s.2.filter (· != TokenType.Void)) primTypeToks) = true ∧
    (Generated.primitiveTypeKeywordSites.filter (fun s => s.2.contains TokenType.Void)).map (·.1) = ["isTypeAhead"] := by
  decide

end BlochVerif.Props.C14
