import BlochVerif.Sim.History
/-!
# C04 — reset is local: the target goes to |0⟩, the other qubits' statistics are unchanged

`resetCore` is the body of `QasmSimulator::reset` — as it stands in /repo, where a `fix:` commit replaced the upstream
projection onto the target's `|0⟩` subspace (DESIGN.md §8, known_findings.json) — with its uniform draw `r` explicit: it measures the
target and, on outcome 1, moves the `|1⟩` half of the vector down onto the `|0⟩` half.  Reset is the
channel "measure, discard the outcome, flip if 1": branch `b` is taken with probability
`p_b = ‖P_b ψ‖²` (`r < p₁` selects `b = 1`, see C02) and ends in `resetSpec ψ q b`.
-/
namespace BlochVerif.Props.C04
open BlochVerif BlochVerif.Sim Finset

/-- the reduced density matrix of the qubits other than `q`, between rest-basis states `j`, `j'`
    (indices with bit `q` clear): `ρ(j,j') = Σ_b ψ(j + b·2^q) · conj ψ(j' + b·2^q)` -/
noncomputable def reducedRho (ψ : ℕ → ℂ) (q j j' : ℕ) : ℂ :=
  ψ j * (starRingEnd ℂ) (ψ j') + ψ (j ^^^ 2 ^ q) * (starRingEnd ℂ) (ψ (j' ^^^ 2 ^ q))

theorem weighted_branch (p : ℝ) (hp : 0 ≤ p) (x y : ℂ) (hx : p = 0 → x = 0) :
    (p : ℂ) * (x / ((Real.sqrt p : ℝ) : ℂ)) * (starRingEnd ℂ) (y / ((Real.sqrt p : ℝ) : ℂ)) =
      x * (starRingEnd ℂ) y := by
  by_cases h0 : p = 0
  -- the branch of weight 0: the left side is 0 by its factor `p`, the right side only because `x = 0` (`hx`)
  · rw [hx h0]; simp
  · have hpos : 0 < p := lt_of_le_of_ne hp (Ne.symm h0)
    have hs : ((Real.sqrt p : ℝ) : ℂ) ≠ 0 := by
      rw [Complex.ofReal_ne_zero]; exact (Real.sqrt_pos.mpr hpos).ne'
    have hsq : ((Real.sqrt p : ℝ) : ℂ) * ((Real.sqrt p : ℝ) : ℂ) = (p : ℂ) := by
      rw [← Complex.ofReal_mul, Real.mul_self_sqrt hp]
    rw [map_div₀, Complex.conj_ofReal]
    field_simp
    rw [← hsq]; ring

/-- **Target in |0⟩, unentangled.** After reset every amplitude with the target bit set is zero,
    so the state is `|0⟩_q ⊗ φ`; it is again a unit `2^n` vector. -/
theorem reset_target_zero (st : State ℂ ℝ) (hw : WF st) (q : ℕ) (hq : q < st.n) (r : ℝ)
    (hr0 : 0 ≤ r) (hr1 : r < 1) :
    (∀ k, k < 2 ^ st.n → k.testBit q = true → (resetCore complexOps st q r).1.amps[k]! = 0) ∧
    WF (resetCore complexOps st q r).1 := by
  refine ⟨fun k _ hb => ?_, WF_resetCore st hw q hq r hr0 hr1⟩
  show absArr _ k = 0
  rw [resetCore_abs st hw q hq]
  unfold resetSpec
  rw [if_pos hb]

theorem reset_branches (st : State ℂ ℝ) (hw : WF st) (q : ℕ) (hq : q < st.n) (r : ℝ) :
    ((resetCore complexOps st q r).2 = true ↔ r < massSpec (absArr st.amps) (2 ^ st.n) q true) ∧
    ∀ k, k < 2 ^ st.n → (resetCore complexOps st q r).1.amps[k]! =
      resetSpec (absArr st.amps) (2 ^ st.n) q (resetCore complexOps st q r).2 k := by
  refine ⟨by rw [resetCore_snd, measureCore_outcome st hw]; simp, fun k _ => ?_⟩
  exact congrFun (resetCore_abs st hw q hq r) k

/-- **Locality.** Averaged over the reset's own random branch (branch `b` has probability
    `p_b = ‖P_b ψ‖²`), the reduced state of the remaining qubits is the one immediately before the
    reset — also when the target is entangled with them and has not been measured:
    `p₀·ρ_rest(post₀) + p₁·ρ_rest(post₁) = ρ_rest(ψ)`. -/
theorem reset_preserves_reduced_state (ψ : ℕ → ℂ) (n q : ℕ) (hq : q < n) (j j' : ℕ)
    (hj : j < 2 ^ n) (hj' : j' < 2 ^ n) (hb : j.testBit q = false) (hb' : j'.testBit q = false) :
    (massSpec ψ (2 ^ n) q false : ℂ) * reducedRho (resetSpec ψ (2 ^ n) q false) q j j' +
    (massSpec ψ (2 ^ n) q true : ℂ) * reducedRho (resetSpec ψ (2 ^ n) q true) q j j' =
      reducedRho ψ q j j' := by
  have hx : (j ^^^ 2 ^ q).testBit q = true := by rw [testBit_xor_two_pow_self, hb]; rfl
  have hx' : (j' ^^^ 2 ^ q).testBit q = true := by rw [testBit_xor_two_pow_self, hb']; rfl
  unfold reducedRho resetSpec
  simp only [hb, hb', hx, hx', Bool.false_eq_true, if_false, if_true, add_zero, map_zero, mul_zero]
  have e0 := weighted_branch (massSpec ψ (2 ^ n) q false) (massSpec_nonneg _ _ _ _) (ψ j) (ψ j')
    (fun h => (massSpec_eq_zero_iff ψ _ q false).mp h j hj hb)
  have e1 := weighted_branch (massSpec ψ (2 ^ n) q true) (massSpec_nonneg _ _ _ _)
    (ψ (j ^^^ 2 ^ q)) (ψ (j' ^^^ 2 ^ q))
    (fun h => (massSpec_eq_zero_iff ψ _ q true).mp h _ (xor_two_pow_lt hq hj) hx)
  rw [← mul_assoc, ← mul_assoc, e0, e1]

/-- the measurement flag of the target is cleared (reset makes a measured qubit usable again) and
    the log, if it is kept, gains exactly one `reset` line -/
theorem reset_clears_flag_and_logs (st : State ℂ ℝ) (hw : WF st) (q : ℕ) (hq : q < st.n) (r : ℝ) :
    (resetCore complexOps st q r).1.measured = st.measured.setIfInBounds q false ∧
    (resetCore complexOps st q r).1.ops =
      (if st.logOps then st.ops ++ [QOp.reset q] else st.ops) :=
  ⟨resetCore_measured _ st q r, resetCore_ops _ st q r⟩

/-- the public `reset` (range check only: a measured qubit may be reset) runs the core -/
theorem reset_runs_core (st : State ℂ ℝ) (q : ℕ) (r : ℝ) (hq : q < st.n) :
    reset complexOps st q r = .ok ((resetCore complexOps st q r).1,
      if (resetCore complexOps st q r).2 then 1 else 0) :=
  (reset_eq_ok _ st q r _).mpr ⟨hq, rfl⟩

/-! Non-vacuity. -/
example : WF (allocate complexOps (allocate complexOps (State.init complexOps)).1).1 ∧
    (0 : ℕ) < (allocate complexOps (allocate complexOps (State.init complexOps)).1).1.n :=
  ⟨WF_allocate _ (WF_allocate _ (WF_init _)), by simp [State.init]⟩

end BlochVerif.Props.C04
