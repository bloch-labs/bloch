import BlochVerif.Sim.Tensor
import BlochVerif.Sim.History
import BlochVerif.Eval.Model
import BlochVerif.Generated.GateMatrices
import BlochVerif.Generated.Builtins
/-!
# C01 — built-in gates act as their defining unitaries on exactly the addressed qubits

The property theorems, `cxMap_bits` (what the index map of `cx` does to each bit), and the two theorems that tie the
generated tables of gate matrices and gate signatures to the model.  The model is
`BlochVerif/Sim/Model.lean`, one definition per member function of `qasm_simulator.cpp` with
the same loops; the driver executes the *same* definitions with `Float` and is compared with
the real simulator after every operation.
-/
namespace BlochVerif.Props.C01
open BlochVerif BlochVerif.Sim Finset

/-- **Single-qubit gates.** For every register size, every active qubit `q`, every gate of
    `h x y z rx ry rz` (any angle) and every state: the simulator accepts the call and the new
    state is `(I ⊗ … ⊗ M_q ⊗ … ⊗ I) ψ`, with `M` unitary. -/
theorem gate_acts_as_unitary_on_addressed_qubit (st : State ℂ ℝ) (hw : WF st) (op : QOp ℝ)
    (q : ℕ) (m : Mat2 ℂ) (hg : gateMat complexOps op = some (q, m)) (hq : q < st.n)
    (hm : st.measured[q]! = false) :
    ∃ st', gate1 complexOps st op = .ok st' ∧ st'.n = st.n ∧ st'.amps.size = 2 ^ st.n ∧
      IsUnitary2 m ∧
      ∀ k, k < 2 ^ st.n →
        st'.amps[k]! = ∑ j ∈ range (2 ^ st.n), tensorEntry q m k j * (absArr st.amps) j := by
  refine ⟨({ st with amps := applySingle st.amps q m }).log op,
    (gate1_eq_ok _ st _ op).mpr (.inr ⟨q, m, hg, (ensureActive_eq_ok st q).mpr ⟨hq, hm⟩, rfl⟩), by simp, by simp [hw.size], gateMat_unitary op q m hg, fun k hk => ?_⟩
  rw [log_amps, ← gateSpecX_eq_tensor _ st.n q hq m k hk, ← absArr_applySingle _ st.n q m hw.size hq]
  rfl

/-- **cx.** For every register size, every ordered pair of distinct active qubits and every state
    the new amplitude of `|k⟩` is the old amplitude of `|k with bit t flipped iff bit c set⟩`. -/
theorem cx_acts_as_controlled_not (st : State ℂ ℝ) (hw : WF st) (c t : ℕ) (hc : c < st.n)
    (ht : t < st.n) (hct : c ≠ t) (hmc : st.measured[c]! = false) (hmt : st.measured[t]! = false) :
    ∃ st', cx st c t = .ok st' ∧ st'.n = st.n ∧ st'.amps.size = 2 ^ st.n ∧
      ∀ k, k < 2 ^ st.n → st'.amps[k]! = (absArr st.amps) (cxMap c t k) := by
  refine ⟨({ st with amps := cxLoop st.amps c t }).log (.cx c t), (cx_eq_ok st _ c t).mpr
    ⟨(ensureActive_eq_ok st c).mpr ⟨hc, hmc⟩, (ensureActive_eq_ok st t).mpr ⟨ht, hmt⟩, hct, rfl⟩, by simp, by simp [hw.size], fun k hk => ?_⟩
  rw [log_amps]
  exact congrFun (absArr_cxLoop _ st.n c t hw.size hc ht hct) k

/-- `cxMap` flips bit `t` exactly when bit `c` is set and touches no other bit -/
theorem cxMap_bits (c t k i : ℕ) :
    (cxMap c t k).testBit i = (k.testBit i ^^ (decide (t = i) && k.testBit c)) := by
  unfold cxMap
  cases h : k.testBit c
  · simp
  · simp [Nat.testBit_xor, Nat.testBit_two_pow]

/-- **The seven matrices are the standard ones**: Paulis and Hadamard literally, rotations
    `R_P(t) = cos(t/2)·1 − i·sin(t/2)·P`. -/
theorem matrices_are_standard (q : ℕ) (t : ℝ) :
    gateMat complexOps (.x q) = some (q, pauliX) ∧
    gateMat complexOps (.y q) = some (q, pauliY) ∧
    gateMat complexOps (.z q) = some (q, pauliZ) ∧
    gateMat complexOps (.h q) = some (q, hadamard) ∧
    gateMat complexOps (.rx q t) = some (q, rotOf pauliX t) ∧
    gateMat complexOps (.ry q t) = some (q, rotOf pauliY t) ∧
    gateMat complexOps (.rz q t) = some (q, rotOf pauliZ t) :=
  ⟨gate_x q, gate_y q, gate_z q, gate_h q, gate_rx q t, gate_ry q t, gate_rz q t⟩

/-- `R_P(t)` is `exp(−i t P/2)`: the Paulis square to 1, and for any such `P` the family `R_P` is a one-parameter group,
    which characterises the exponential. -/
theorem rotations_form_one_parameter_groups (s t : ℝ) :
    (matMul pauliX pauliX = ident ∧ matMul pauliY pauliY = ident ∧ matMul pauliZ pauliZ = ident) ∧
    (∀ p, matMul p p = ident → rotOf p 0 = ident ∧ matMul (rotOf p s) (rotOf p t) = rotOf p (s + t)) :=
  ⟨pauli_sq, fun p hp => ⟨rotOf_zero p, rotOf_add p hp s t⟩⟩

/-- on a computational basis state the gate writes column `x_q` of `M` onto factor `q` and leaves
    every other qubit of `|x⟩` as it was — this fixes the whole linear map -/
theorem gate_on_basis_state (q : ℕ) (m : Mat2 ℂ) (x k : ℕ) :
    gateSpecX (fun j => if j = x then (1 : ℂ) else 0) q m k =
      if agreeOff q k x then m.entry (k.testBit q) (x.testBit q) else 0 :=
  gateSpecX_basis q m x k

/-! Non-vacuity: a concrete two-qubit state meets the hypotheses. -/
example : WF (allocate complexOps (allocate complexOps (State.init complexOps)).1).1 ∧
    (1 : ℕ) < (allocate complexOps (allocate complexOps (State.init complexOps)).1).1.n :=
  ⟨WF_allocate _ (WF_allocate _ (WF_init _)), by simp [State.init]⟩

/-- `Generated/GateMatrices.lean` is rewritten on every run from the seven gate functions of `qasm_simulator.cpp`,
entry for entry; the matrices every theorem above speaks about are those: a changed entry in the source changes the
generated table and this stops checking. -/
theorem model_matrices_are_the_source_matrices {K R : Type} (o : ROps K R) (op : QOp R) :
    gateMat o op = Generated.gateMatSrc o op := by
  cases op <;> rfl

/-- `Generated/Builtins.lean` is rewritten on every run from `built_ins.cpp`: the names the evaluator model dispatches
are exactly the declared built-in gates, each is filed under its own name, returns nothing, takes a qubit first,
and the signatures are the documented ones. -/
theorem gate_signatures_are_the_documented_ones :
    Eval.builtinGates = Generated.builtinGateTable.map (·.1) ∧
    Generated.builtinGateTable.all (fun r => r.1 == r.2.1 && r.2.2.2 == "Void" && r.2.2.1.head? == some "Qubit") = true ∧
    Generated.builtinGateTable.map (fun r => (r.1, r.2.2.1)) =
      [("h", ["Qubit"]), ("x", ["Qubit"]), ("y", ["Qubit"]), ("z", ["Qubit"]),
       ("rx", ["Qubit", "Float"]), ("ry", ["Qubit", "Float"]), ("rz", ["Qubit", "Float"]), ("cx", ["Qubit", "Qubit"])] := by
  decide

end BlochVerif.Props.C01
