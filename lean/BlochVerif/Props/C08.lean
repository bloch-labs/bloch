import BlochVerif.Obj.Proofs
import BlochVerif.Life.Proofs
/-!
# C08 — object model: construction order, dispatch, overloads, statics, destruction

Theorems about `Obj.Model` (the mechanisms of the class runtime over linear hierarchies) for every
hierarchy, every class index and every candidate list.  `tools/props/c08.py` ties the model to the real
pipeline: programs rendered from random hierarchy/action descriptions must print exactly `programTrace`.
Of generic specialisation the model has the static counter, one per type argument (`genRun`), which
`c08.py` compares with sequences of `new Box<T>`.  The last part is about `Life.Model`, over arbitrary object graphs:
reference counts are exact, and an object's destructor has run exactly when nothing references it.
-/
namespace BlochVerif.Props.C08
open BlochVerif.Obj

/-- `k` is the most-derived class at or above `dyn` that declares the method -/
def IsMostDerivedOverride (h : Hier) (dyn k : Nat) : Prop :=
  k ≤ dyn ∧ h.ovr k = true ∧ ∀ j, k < j → j ≤ dyn → h.ovr j = false

/-- A virtual call runs the most-derived override of the receiver's *dynamic* class.  That the declared class of the
variable it is called through plays no part is by construction: `dispatchWho` ignores that argument. -/
theorem dispatch_most_derived (h : Hier) (stat dyn : Nat) :
    IsMostDerivedOverride h dyn (dispatchWho h stat dyn) :=
  vtableWho_spec h dyn

theorem most_derived_unique (h : Hier) (dyn k k' : Nat)
    (a : IsMostDerivedOverride h dyn k) (b : IsMostDerivedOverride h dyn k') : k = k' := by
  obtain ⟨a1, a2, a3⟩ := a
  obtain ⟨b1, b2, b3⟩ := b
  rcases Nat.lt_trichotomy k k' with hlt | heq | hgt
  · have := a3 k' hlt b1; simp_all
  · exact heq
  · have := b3 k hgt a1; simp_all

/-- `super.who()` written in class `impl` runs the version a `C_{impl-1}` object would run: it is resolved
from the base of the class that *declares* the calling method, never from the receiver's class. -/
theorem super_runs_base_version (h : Hier) (impl fuel : Nat) (hf : impl < fuel) (hs : h.sup impl = true) :
    whoChain h fuel impl = impl :: whoChain h fuel (findWho h (impl - 1)) ∧
    IsMostDerivedOverride h (impl - 1) (findWho h (impl - 1)) := by
  constructor
  · cases fuel with
    | zero => omega
    | succ f =>
      have hlt := findWho_lt_of_sup h hs
      show (impl :: (if h.sup impl then whoChain h f (findWho h (impl - 1)) else [])) = _
      rw [if_pos hs, whoChain_fuel h f (f + 1) _ (by omega) (by omega)]
  · rw [findWho_eq_vtableWho]; exact dispatch_most_derived h 0 (impl - 1)

theorem no_super_stops (h : Hier) (impl fuel : Nat) (hf : impl < fuel) (hs : h.sup impl = false) :
    whoChain h fuel impl = [impl] := by
  cases fuel with
  | zero => omega
  | succ f => simp [whoChain, hs]

/-- the bodies run by one virtual call: strictly descending classes, each declaring the method, starting
at the dispatched class; in particular it never re-enters a body (that the fuel `impl + 1` does not cut it short is
`whoChain_fuel`). -/
theorem who_chain_descends (h : Hier) (stat dyn : Nat) :
    let impl := dispatchWho h stat dyn
    (∃ rest, whoChain h (impl + 1) impl = impl :: rest) ∧
    (whoChain h (impl + 1) impl).Pairwise (· > ·) ∧
    ∀ x ∈ whoChain h (impl + 1) impl, h.ovr x = true :=
  ⟨⟨_, rfl⟩, (whoChain_desc h _ _).1,
   whoChain_all_ovr h _ _ (vtableWho_ovr h dyn)⟩

/-- Construction is base-first: the classes complete their (initialisers; body) in the order C0, C1, …, C_dyn,
each exactly once. -/
theorem construction_base_first (dyn : Nat) : ctorOrder dyn = List.range (dyn + 1) := by
  induction dyn with
  | zero => rfl
  | succ n ih => rw [ctorOrder, ih, List.range_succ (n := n + 1)]

/-- within one class the field initialisers precede the constructor body, and the body sees the
initialised field.  This is `ctorLines` written out and holds by definition: that the implementation prints these lines in
this order is the trace comparison of `c08.py` -/
theorem initialisers_before_body (h : Hier) (dyn a i : Nat) :
    ctorLines h dyn a i =
      [s!"init f{i}", s!"init h{i}", s!"ctor C{i} {a + (dyn - i)} {(h.getD i default).field}"] := rfl

/-- Destruction is derived-first: exactly the classes from C_dyn up to C0 that declare a destructor,
in descending order. -/
theorem destruction_derived_first (h : Hier) (dyn : Nat) :
    dtorOrder h dyn = ((List.range (dyn + 1)).reverse).filter (fun i => (h.getD i default).dtor) := by
  induction dyn with
  | zero => simp [dtorOrder, List.range_succ, List.filter_cons]
  | succ n ih =>
    rw [dtorOrder, ih, List.range_succ (n := n + 1), List.reverse_append, List.filter_append]
    simp [List.filter_cons]

/-- One static slot per class: slot `i` changes only when an instance of `C_i` or of a subclass is
constructed (`+1`), or — for `C0` — when `bump()` (declared in `C0`) runs (`+100`); no action touches
another class's slot, and the number of slots never changes. -/
theorem static_slot_per_class (h : Hier) (s : St) (a : Action) (i : Nat) (hi : i < s.made.length) :
    (step h s a).1.made.length = s.made.length ∧
    (step h s a).1.made.getD i 0 = s.made.getD i 0 +
      (match a with
       | .new _ _ dyn _ => if i ≤ dyn then 1 else 0
       | .bump v => if (lookupVar s v).isSome ∧ i = 0 then 100 else 0
       | _ => 0) := by
  cases a with
  | new v st dy a' =>
    refine ⟨by simp [step, bumpMade_length], ?_⟩
    simpa [step] using bumpMade_getD s.made dy i hi
  | bump v =>
    simp only [step]
    cases hl : lookupVar s v with
    | none => simp
    | some p =>
      refine ⟨by simp [addAt_length], ?_⟩
      simpa using addAt_getD s.made 0 100 i hi
  | readRoot v | who v | call v | getf v | drop v => simp only [step]; cases lookupVar s v <;> simp
  | g arg => simp only [step]; cases pick (gCands h.length) [gArgTy arg] <;> simp
  | churn a' n | echoChurn n => simp [step]

/-- The selected overload is applicable and strictly cheaper than every other applicable candidate. -/
theorem overload_chosen_is_unique_cheapest (cands : List (List Ty)) (args : List Ty) (i : Nat)
    (hp : pick cands args = .chosen i) :
    ∃ b, (cands.map (paramsCost · args))[i]? = some (some b) ∧
      ∀ (j k : Nat), j ≠ i → (cands.map (paramsCost · args))[j]? = some (some k) → b < k := by
  have := pick_spec cands args
  rw [hp] at this
  exact this

/-- no overload is reported exactly when no candidate is applicable -/
theorem overload_none_iff (cands : List (List Ty)) (args : List Ty) :
    pick cands args = .none ↔ ∀ j : Nat, j < cands.length → (cands.map (paramsCost · args))[j]? = some none := by
  have hs := pick_spec cands args
  have hlt : ∀ {i : Nat} {b}, (cands.map (paramsCost · args))[i]? = some (some b) → i < cands.length :=
    fun h => by simpa using (List.getElem?_eq_some_iff.mp h).1
  constructor
  · intro hp; rw [hp] at hs; exact hs
  · intro hall
    -- a chosen or tied candidate would be applicable
    cases hp : pick cands args with
    | none => rfl
    | chosen i =>
      rw [hp] at hs
      obtain ⟨b, h1, _⟩ := hs
      rw [hall i (hlt h1)] at h1; cases h1
    | ambiguous =>
      rw [hp] at hs
      obtain ⟨i, _, b, _, h1, _⟩ := hs
      rw [hall i (hlt h1)] at h1; cases h1

/-- an ambiguity is reported only when two different candidates tie at the minimal cost -/
theorem overload_ambiguous_has_tie (cands : List (List Ty)) (args : List Ty)
    (hp : pick cands args = .ambiguous) :
    ∃ (i j b : Nat), i ≠ j ∧ (cands.map (paramsCost · args))[i]? = some (some b) ∧
      (cands.map (paramsCost · args))[j]? = some (some b) ∧
      ∀ (j' k : Nat), (cands.map (paramsCost · args))[j']? = some (some k) → b ≤ k := by
  have := pick_spec cands args
  rw [hp] at this
  exact this

/-- passing an argument of declared class `C_a` for a parameter of class `C_e` costs the inheritance distance, and a
parameter that is not an ancestor is inapplicable (the class/class branch of `convCost`; that the least cost, here the
nearest ancestor, is what gets selected is `overload_chosen_is_unique_cheapest`) -/
theorem class_argument_cost (e a : Nat) :
    convCost (.cls e) (.cls a) = if e ≤ a then some (a - e) else none := by
  simp [convCost]

/-- a class reference never converts to a primitive parameter, nor a primitive to a class parameter -/
theorem class_never_matches_primitive (t : Ty) (a : Nat) (ht : ∀ e, t ≠ .cls e) :
    convCost t (.cls a) = none ∧ (t ≠ .null → convCost (.cls a) t = none) := by
  cases t <;> simp_all [convCost]

/-- Each generic instantiation has its own specialisation: the counter a `new Box<T>` reports is the number
of constructions so far *with the same type argument*, unaffected by the other instantiations. -/
theorem generic_specialisation_per_argument (seen : List Nat) (t : Nat) (ts : List Nat) :
    genRun seen (t :: ts) = toString (seen.count t + 1) :: genRun (seen ++ [t]) ts := by
  simp [genRun, List.count_append]

/-- the count that `genRun` reports for `t` is not moved by a `u ≠ t` joining `seen`.  A fact about `List.count`:
`genRun` enters through `generic_specialisation_per_argument` -/
theorem generic_other_arguments_inert (seen : List Nat) (t u : Nat) (hne : u ≠ t) :
    (seen ++ [u]).count t = seen.count t := by
  simp [List.count_append, hne]

/-! ### non-vacuity: a three-level hierarchy where the middle class overrides and calls super -/
def exH : Hier := [⟨true, false, 3, true⟩, ⟨true, true, 5, false⟩, ⟨false, false, 2, true⟩]
example : dispatchWho exH 0 2 = 1 := by decide
example : whoChain exH 2 1 = [1, 0] := by decide
example : dtorOrder exH 2 = [2, 0] := by decide
example : pick (gCands 3) [.cls 2] = .chosen 4 ∧ pick (gCands 3) [.cls 1] = .chosen 3 := by decide
example : pick [[.cls 0], [.cls 0]] [.cls 1] = .ambiguous := by decide
example : pick [[.long], [.float]] [.int] = .chosen 0 := by decide

/-! ### lifetime: the destructor runs when, and only when, the last reference goes

`Life.Model` is the evaluator's shared-pointer discipline over arbitrary object graphs (fields `a`, `b`, any
aliasing, cycles included).  For every program of the heap language and every state it reaches: -/
open BlochVerif.Life in
/-- the stored count of every object whose destructor has not run is exactly the number of slots and fields of
live objects that reference it, and it is positive -/
theorem reference_count_is_exact (ops : List Gc.Op) (h : ∀ op ∈ ops, Life.Op.wf op) (x : Nat) (o : LObj)
    (hx : (runOps ops).heap[x]? = some o) (hd : o.dead = false) :
    o.rc = refs (runOps ops) x ∧ 1 ≤ o.rc := by
  exact (runOps_inv ops h).live hx hd

open BlochVerif.Life in
/-- an object's destructor has run exactly when nothing references it any more: never while a variable or a
field of a live object still points to it, and always as soon as none does -/
theorem destructor_has_run_iff_unreferenced (ops : List Gc.Op) (h : ∀ op ∈ ops, Life.Op.wf op) (x : Nat) (o : LObj)
    (hx : (runOps ops).heap[x]? = some o) :
    o.dead = true ↔ refs (runOps ops) x = 0 := by
  have hi := runOps_inv ops h
  constructor
  · intro hd; exact (hi.dead hx hd).2.2.1
  · intro hr
    cases hd : o.dead with
    | true => rfl
    | false => have := hi.live hx hd; omega

open BlochVerif.Life in
/-- a destroyed object holds nothing: its fields were released with it -/
theorem destroyed_object_released_its_fields (ops : List Gc.Op) (h : ∀ op ∈ ops, Life.Op.wf op) (x : Nat) (o : LObj)
    (hx : (runOps ops).heap[x]? = some o) (hd : o.dead = true) : o.a = none ∧ o.b = none := by
  have := (runOps_inv ops h).dead hx hd
  exact ⟨this.1, this.2.1⟩

/-- releasing a reference prints as many lines as the number of live objects goes down by: lines printed plus live
objects is the same before and after.  The equation alone does not say that the lines are destructor lines or that
nothing comes back to life; that is read off the steps of `release` (`Life.release_cases`: `decSt` prints nothing and
kills nothing, `killSt` appends one `d<id>` and kills one object) -/
theorem one_destructor_line_per_death (fuel : Nat) (s : Life.St) (v : Option Nat) :
    (Life.release fuel s v).out.length + Life.liveCount (Life.release fuel s v) =
      s.out.length + Life.liveCount s := by
  refine Life.release_cases (fun s t => t.out.length + Life.liveCount t = s.out.length + Life.liveCount s) (fun _ => rfl)
    ?_ ?_ (fun _ _ _ h1 h2 => h2.trans h1) fuel s v
  · intro s x o ho _ _
    rw [Life.liveCount_decSt ho]; rfl
  · intro s x o t ho hd ih
    have := Life.liveCount_killSt ho hd
    have e : (Life.killSt s x o).out.length = s.out.length + 1 := by simp [Life.killSt]
    omega

/-- non-vacuity: a parent holding a child; dropping the parent destroys both, parent first -/
def exOps : List Gc.Op := [.new 0 1, .new 1 2, .seta 0 1, .null 1, .show 0, .null 0]
example : ∀ op ∈ exOps, Life.Op.wf op := by
  intro op h; simp [exOps] at h; rcases h with h | h | h | h | h | h <;> subst h <;> simp [Life.Op.wf]
example : ((Life.runOps exOps).heap.map (·.dead)) = [true, true] := by decide
example : ((Life.runOps (exOps.take 5)).heap.map (fun o => (o.rc, o.dead))) = [(1, false), (1, false)] := by decide

end BlochVerif.Props.C08
