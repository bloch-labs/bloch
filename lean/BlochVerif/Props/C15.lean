import BlochVerif.Lex.Proofs
import BlochVerif.Generated.Keywords
import BlochVerif.Lex.Operators
/-!
# C15 — the lexer is lossless and token positions are exact

Model: `BlochVerif/Lex/Model.lean` (one function per scanner of `lexer.cpp`).  The theorems hold
for *every* keyword table, so they hold for the table regenerated from the source on this run
(`BlochVerif/Generated/Keywords.lean`), which is what the driver executes.
-/
namespace BlochVerif.Props.C15
open BlochVerif.Lex

/-- **Lossless, with exact positions** (the structured statement): the accepted source is
    trivia/token/trivia/…/trivia, tokens stamped with the position of their first character. -/
theorem lexer_is_lossless_with_exact_positions (kw : List Char → Option TokenType) (src : List Char)
    (toks : List Token) (h : tokenize kw src = .ok toks) : Lexed ⟨1, 1⟩ src toks :=
  tokenize_lossless kw src toks h

theorem lexed_positions {p : Pos} {src : List Char} {toks : List Token} (hl : Lexed p src toks) :
    ∀ t ∈ toks, ∃ pre suf, src = pre ++ t.text ++ suf ∧ t.pos = posAfter p pre := by
  induction hl with
  | @eof p w _ =>
    intro t ht
    cases List.mem_singleton.mp ht
    exact ⟨w, [], by simp, rfl⟩
  | @tok p w t rest ts _ _ hpos _ ih =>
    intro t' ht'
    rcases List.mem_cons.mp ht' with rfl | ht'
    · exact ⟨w, rest, rfl, hpos⟩
    · obtain ⟨pre, suf, h1, h2⟩ := ih t' ht'
      exact ⟨w ++ t.text ++ pre, suf, by rw [h1]; simp, by rw [h2, ← posAfter_append]⟩

/-- **Every token is where it says it is**: for each returned token there is a split
    `src = pre ++ text ++ suf` with the token's reported position equal to the position of the
    first byte after `pre`. -/
theorem every_token_sits_at_its_reported_position (kw : List Char → Option TokenType)
    (src : List Char) (toks : List Token) (h : tokenize kw src = .ok toks) :
    ∀ t ∈ toks, ∃ pre suf, src = pre ++ t.text ++ suf ∧ t.pos = posAfter ⟨1, 1⟩ pre :=
  lexed_positions (tokenize_lossless kw src toks h)

/-- the position function is the usual one: line = 1 + number of newlines before the byte -/
theorem reported_line_counts_newlines (pre : List Char) :
    (posAfter ⟨1, 1⟩ pre).line = 1 + pre.count '\n' := posAfter_line _ _

/-- … and column = 1 + number of bytes since the last newline -/
theorem reported_column_counts_from_last_newline (a b : List Char) (hb : ∀ c ∈ b, c ≠ '\n') :
    (posAfter ⟨1, 1⟩ (a ++ '\n' :: b)).col = 1 + b.length ∧
    (posAfter ⟨1, 1⟩ b).col = 1 + b.length := by
  have hb' : '\n' ∉ b := fun h => hb _ h rfl
  exact ⟨posAfter_col_after_newline _ a b hb', by rw [posAfter_no_nl _ b hb']; rfl⟩

/-- between tokens only whitespace and `//` comments are dropped, and what follows skipped
    trivia is the start of a token (not whitespace, not `//`) -/
theorem skipped_text_is_trivia (s : List Char) (p : Pos) :
    ∃ w, s = w ++ (skipWs s p).1 ∧ Triv false w ∧ (skipWs s p).2 = posAfter p w ∧
      StartsToken (skipWs s p).1 :=
  skipWs_spec s p

/-- the statement of `C13.lexer_total`: true of every value of type `Except LexError (List Token)`.  That the fuel
    `length + 1` the lexer is run with is enough is `C13.lexer_never_runs_out_of_fuel`. -/
theorem tokenize_total (kw : List Char → Option TokenType) (src : List Char) :
    (∃ toks, tokenize kw src = .ok toks) ∨ (∃ e, tokenize kw src = .error e) :=
  Except.ok_or_error _

/-! Non-vacuity (a test of the statement on a multi-line string, with an empty keyword table). -/
example : tokenize (fun _ => none) ['"', 'a', '\n', 'b', '"', ' ', 'x'] =
    .ok [⟨.StringLiteral, ['"', 'a', '\n', 'b', '"'], ⟨1, 1⟩⟩, ⟨.Identifier, ['x'], ⟨2, 4⟩⟩, ⟨.Eof, [], ⟨2, 5⟩⟩] := by
  rfl

/-- the model's operator scanner — which one- and two-character tokens exist, which second character extends which first,
in which order, with which text — is the `switch (c)` of `Lexer::scanToken`, as the translator reads it off the source on
every run (`Generated/Operators.lean`) -/
theorem operator_scanner_is_the_source_switch (c : Char) (rest : List Char) :
    scanOp c rest = scanOpBy BlochVerif.Generated.operatorTable c rest := by
  unfold scanOp BlochVerif.Generated.operatorTable
  -- the `if` chain and the table are gone through together, one character at a time
  repeat' apply ite_eq_scanOpBy_cons
  case hb => rfl
  all_goals rintro rfl; simp only [scanTwo_eq_row, scanMinus_eq_row, scanOpBy_one]

end BlochVerif.Props.C15
