import BlochVerif.Eval.Model
import BlochVerif.Sem.DeclsProofs
/-!
# C10 — declaration order

The evaluator consults its function table only by name, and the class table resolves bases by name and lays
a class out base-first; with distinct names both are functions of the *set* of declarations.  So is the
analyser's declaration pass (`Sem/Decls.lean`: duplicates, bases, cycles, calls, `new`, abstractness).
PARTIAL with respect to "whether the program is accepted": the analyser's body rules beyond calls and `new` are
tied by the correspondence run only (every permutation must be accepted/rejected alike).
-/
namespace BlochVerif.Props.C10
open BlochVerif BlochVerif.Parse BlochVerif.Eval

theorem find_key_perm {α : Type} (key : α → String) {l l' : List α} (hp : l.Perm l')
    (hnd : (l.map key).Nodup) (n : String) :
    l.find? (fun a => key a == n) = l'.find? (fun a => key a == n) := by
  induction hp with
  | nil => rfl
  | cons x _ ih =>
    simp only [List.map_cons, List.nodup_cons] at hnd
    simp only [List.find?_cons]
    split
    · rfl
    · exact ih hnd.2
  | swap x y l =>
    simp only [List.map_cons, List.nodup_cons, List.mem_cons, not_or] at hnd
    simp only [List.find?_cons]
    -- only "both keys are `n`" needs an argument, and distinct keys exclude it
    cases hx : key x == n <;> cases hy : key y == n <;> try rfl
    exact absurd ((beq_iff_eq.mp hy).trans (beq_iff_eq.mp hx).symm) hnd.1.1
  | trans h1 _ ih1 ih2 =>
    rw [ih1 hnd]
    exact ih2 ((h1.map key).nodup_iff.mp hnd)

/-- Running a program is independent of the order of its top-level functions (`execute` is the class-free
evaluator: with a non-empty class list both sides are the same `unsupported`). -/
theorem execute_order_independent (prog prog' : Program) (draws : List Float) (e l : Bool) (fuel : Nat)
    (hp : prog.functions.Perm prog'.functions)
    (hnd : (prog.functions.map (·.name)).Nodup)
    (hc : prog.classes = prog'.classes) :
    execute prog draws e l fuel = execute prog' draws e l fuel := by
  unfold execute
  simp only [hc, find_key_perm (·.name) hp hnd]

structure ClsDecl where
  name : String
  base : Option String
  fields : List String

/-- `buildClassTable`: the instance layout of a class is its base's layout followed by its own fields,
whatever the position of the base in the declaration list (`fuel` bounds the chain length).  A stand-alone
rendering of that rule: nothing outside this file uses it, and only the permutation runs tie it to the C++. -/
def layoutOf (decls : List ClsDecl) : Nat → String → List (String × String)
  | 0, _ => []
  | fuel + 1, n =>
    match decls.find? (fun d => d.name == n) with
    | none => []
    | some d =>
      (match d.base with
       | some b => layoutOf decls fuel b
       | none => []) ++ d.fields.map (fun f => (d.name, f))

theorem class_layout_order_independent (decls decls' : List ClsDecl) (hp : decls.Perm decls')
    (hnd : (decls.map (·.name)).Nodup) (fuel : Nat) (n : String) :
    layoutOf decls fuel n = layoutOf decls' fuel n := by
  induction fuel generalizing n with
  | zero => rfl
  | succ f ih => simp only [layoutOf, find_key_perm (·.name) hp hnd n, ih]

/-- non-vacuity: a derived class written before its base gets the base's fields first -/
example : layoutOf [⟨"D", some "B", ["y"]⟩, ⟨"B", none, ["x"]⟩] 3 "D" = [("B", "x"), ("D", "y")] := by decide

open BlochVerif.Decls

theorem chainOK_perm (cs cs' : List Cls) (hp : cs.Perm cs') (hnd : (cs.map (·.name)).Nodup) (fuel : Nat) (n : String) :
    chainOK cs fuel n = chainOK cs' fuel n := by
  induction fuel generalizing n with
  | zero => rfl
  | succ f ih => simp only [chainOK, find_key_perm (·.name) hp hnd n, ih]

theorem required_perm (cs cs' : List Cls) (hp : cs.Perm cs') (hnd : (cs.map (·.name)).Nodup) (fuel : Nat) (n : String) :
    required cs fuel n = required cs' fuel n := by
  induction fuel generalizing n with
  | zero => rfl
  | succ f ih => simp only [required, find_key_perm (·.name) hp hnd n, ih]

theorem instantiable_perm (cs cs' : List Cls) (hp : cs.Perm cs') (hnd : (cs.map (·.name)).Nodup) (n : String) :
    instantiable cs n = instantiable cs' n := by
  unfold instantiable
  rw [find_key_perm (·.name) hp hnd n, hp.length_eq, required_perm cs cs' hp hnd]

theorem bodyOK_perm (p p' : Prog) (hc : p.classes.Perm p'.classes) (hf : p.functions.Perm p'.functions)
    (hnd : (p.classes.map (·.name)).Nodup) (b : Body) :
    bodyOK p b = bodyOK p' b := by
  unfold bodyOK
  simp only [hf.any_eq, instantiable_perm _ _ hc hnd]

/-- **C10, acceptance.**  Whether the analyser accepts the declarations — no duplicate class or function, every
base declared, no inheritance cycle, every call naming a declared function of that arity, every `new` naming a
declared class that is not abstract, where abstractness is inherited down the chain until implemented — does not
depend on the order in which classes and functions are written. -/
theorem acceptance_order_independent (p p' : Prog) (hc : p.classes.Perm p'.classes)
    (hf : p.functions.Perm p'.functions) : accept p = accept p' := by
  unfold accept
  by_cases hnd : (p.classes.map (·.name)).Nodup
  · simp only [bodyOK_perm p p' hc hf hnd, chainOK_perm _ _ hc hnd, hc.length_eq, hc.all_eq, hf.all_eq,
      (hc.map _).nodup_iff, (hf.map _).nodup_iff]
  · simp [hnd, ← (hc.map _).nodup_iff]

/-- the chain test inside `accept` is exact: its bound (number of classes + 1) never rejects a chain that ends, because
a walk that ends visits pairwise different declared classes (`Sem/DeclsProofs.lean`) -/
theorem inheritance_test_is_exact (cs : List Cls) (n : String) :
    chainOK cs (cs.length + 1) n = true ↔ ∃ k, chainOK cs k n = true :=
  ⟨fun h => ⟨_, h⟩, fun ⟨k, h⟩ => chainOK_fuel_exact cs k n h⟩

/-- non-vacuity: accepted with a derived class and a caller written first, and with the classes reversed; rejected
for a cycle, a missing base, a wrong arity -/
def okProg : Prog := { classes := [{ name := "D", base := some "B", body := ⟨[("f", 1)], ["B"]⟩ }, { name := "B" }],
                       functions := [⟨"main", 0, ⟨[("f", 1)], ["D"]⟩⟩, ⟨"f", 1, {}⟩] }
example : accept okProg = true := by decide
example : accept { okProg with classes := okProg.classes.reverse } = true := by decide
example : accept { classes := [{ name := "A", base := some "B" }, { name := "B", base := some "A" }] } = false := by decide
example : accept { classes := [{ name := "A", base := some "Z" }] } = false := by decide
example : accept { functions := [⟨"main", 0, ⟨[("f", 2)], []⟩⟩, ⟨"f", 1, {}⟩] } = false := by decide
/-- an obligation passed through an intermediate class: the leaf is abstract until somebody implements it -/
def shapes (leafImpl : List String) : List Cls :=
  [{ name := "Square", base := some "Polygon", impls := leafImpl }, { name := "Polygon", base := some "Shape", isAbstract := true },
   { name := "Shape", isAbstract := true, abstracts := ["area"] }]
example : accept { classes := shapes [], functions := [⟨"main", 0, ⟨[], ["Square"]⟩⟩] } = false := by decide
example : accept { classes := (shapes []).reverse, functions := [⟨"main", 0, ⟨[], ["Square"]⟩⟩] } = false := by decide
example : accept { classes := shapes ["area"], functions := [⟨"main", 0, ⟨[], ["Square"]⟩⟩] } = true := by decide

end BlochVerif.Props.C10
