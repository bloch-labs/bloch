import BlochVerif.Eval.Control
/-!
# C18 — shots are isolated

The evaluator model is a function of the program and the draws: a fresh `EState` is built from the
program for every execution, so nothing a shot did can reach the next one (`shots_are_independent_runs`).
The one channel the real evaluator has that the pure model has not is the shared `Program` tree: it writes
`ArrayType::size` back into the tree when the size is still unknown.  `SizeNode` models exactly that
write-back together with the analyser's constant folding, and `writeback_inert` shows the branch is dead on
every analysed declaration, so executing never alters the tree.  Last, for the evaluator model itself: the draws a call
consumes are counted by the outcomes it records (`a_run_consumes_one_draw_per_recorded_outcome`).  The tie to the C++ (including statics,
generic specialisations, qubit indices and tracked counts living in the per-shot evaluator) is the `shots`
harness command: one analysed `Program` executed N times against N fresh parse-analyse-run pipelines with
the same draws (PARTIAL: differential, bounded).
-/
namespace BlochVerif.Props.C18
open BlochVerif BlochVerif.Eval BlochVerif.Parse

/-- multi-shot mode: the same analysed program executed once per shot, each with its own draws -/
def runShots (prog : Program) (draws : List (List Float)) (echo : Bool) (fuel : Nat) : List RunResult :=
  draws.map (fun ds => execute prog ds echo true fuel)

/-- N fresh pipelines: `reparse k` is whatever parsing and analysing the source again yields for shot `k` -/
def runFresh (reparse : Nat → Program) (draws : List (List Float)) (echo : Bool) (fuel : Nat) : List RunResult :=
  draws.zipIdx.map (fun (ds, k) => execute (reparse k) ds echo true fuel)

/-- A multi-shot run equals independent fresh runs with the same draws, provided re-parsing yields the same
tree — i.e. provided analysing and executing never alter the shared tree, which is what
`writeback_inert` establishes for the only write the evaluator performs. -/
theorem shots_are_independent_runs (prog : Program) (reparse : Nat → Program) (hre : ∀ k, reparse k = prog)
    (draws : List (List Float)) (echo : Bool) (fuel : Nat) :
    runShots prog draws echo fuel = runFresh reparse draws echo fuel := by
  unfold runShots runFresh
  apply List.ext_getElem?
  intro i
  simp only [List.getElem?_map, List.getElem?_zipIdx]
  cases draws[i]? <;> simp [hre]

/-- the k-th shot's result depends on the program and on its own draws only -/
theorem shot_depends_on_own_draws_only (prog : Program) (d1 d2 : List (List Float)) (k : Nat)
    (h : d1[k]? = d2[k]?) (echo : Bool) (fuel : Nat) :
    (runShots prog d1 echo fuel)[k]? = (runShots prog d2 echo fuel)[k]? := by
  simp [runShots, h]

/-! ## the array-size write-back -/

/-- `ArrayType`: `size` (-1 = not known) and an optional size expression, abstracted to its constant value
when the analyser can fold it -/
structure SizeNode where
  size : Int
  /-- `none`: no size expression; `some none`: an expression that is not a compile-time constant;
  `some (some v)`: a constant expression of value `v` -/
  expr : Option (Option Int)
deriving DecidableEq, Repr

/-- `SemanticAnalyser::visit(VariableDeclaration&)`: fold the size expression into `size`, reject what is not
constant or is negative -/
def analyse (n : SizeNode) : Option SizeNode :=
  match n.expr with
  | some none => none
  | some (some v) => if v < 0 then none else some { n with size := v }
  | none => if n.size ≥ 0 || n.size = -1 then some n else none

/-- `exec(VariableDeclaration)`: `if (arr->size < 0 && arr->sizeExpression) arr->size = eval(sizeExpression)` -/
def execDecl (n : SizeNode) (evalSize : Int) : SizeNode :=
  if n.size < 0 && n.expr.isSome then { n with size := evalSize } else n

/-- what an analysed declaration looks like: no size expression, or a constant one already folded into `size` -/
theorem analyse_some (n n' : SizeNode) (h : analyse n = some n') :
    (n'.expr = none ∧ (n'.size ≥ 0 ∨ n'.size = -1)) ∨ ∃ v, 0 ≤ v ∧ n' = ⟨v, some (some v)⟩ := by
  unfold analyse at h
  split at h
  · cases h
  · rename_i v he
    split at h
    · cases h
    · cases h; exact .inr ⟨v, by omega, by rw [he]⟩
  · rename_i he
    split at h
    · rename_i hs
      cases h
      exact .inl ⟨he, by simpa using hs⟩
    · cases h

/-- On an analysed declaration the evaluator's write-back never fires: executing leaves the tree as it is,
whatever the run-time value of the size expression. -/
theorem writeback_inert (n n' : SizeNode) (h : analyse n = some n') (evalSize : Int) :
    execDecl n' evalSize = n' := by
  obtain ⟨he, _⟩ | ⟨v, hv, rfl⟩ := analyse_some n n' h
  · simp [execDecl, he]
  · simp [execDecl, Int.not_lt.mpr hv]

/-- analysing an analysed declaration again (an analyser instance reused, or the same tree analysed twice)
changes nothing -/
theorem analyse_idempotent (n n' : SizeNode) (h : analyse n = some n') : analyse n' = some n' := by
  obtain ⟨he, hs⟩ | ⟨v, hv, rfl⟩ := analyse_some n n' h
  · simp [analyse, he, hs]
  · simp [analyse, Int.not_lt.mpr hv]

example : analyse ⟨-1, some (some 3)⟩ = some ⟨3, some (some 3)⟩ ∧ execDecl ⟨3, some (some 3)⟩ 99 = ⟨3, some (some 3)⟩ := by
  decide
/-- without analysis the write-back does fire: the hypothesis of `writeback_inert` is needed -/
example : execDecl ⟨-1, some (some 3)⟩ 99 = ⟨99, some (some 3)⟩ := by decide

/-! ## the randomness a shot consumes is accounted for -/

/-- **Whatever a program does**, what a successful call has taken off its draw list it has taken off the front, and as many
elements as it has added measurement or reset records: a shot cannot consume randomness without recording an outcome, nor
reach into another shot's draws (induction principle of the evaluator model, `Eval/Control.lean`).  Once the list is
exhausted a record costs no draw (the model then answers 0.5); the forced-draw correspondence runs, which rely on this
alignment, supply enough. -/
theorem a_run_consumes_one_draw_per_recorded_outcome (fuel : Nat) (fn : FuncDecl) (args : List Value)
    (st st' : EState) (v : Value) (h : (call fuel fn args).run st = .ok (v, st')) :
    ∃ k pre, st'.draws = st.draws.drop k ∧ st'.outcomes = pre ++ st.outcomes ∧ pre.length = k :=
  call_pairs_draws_with_outcomes fuel fn args st st' v h

end BlochVerif.Props.C18
