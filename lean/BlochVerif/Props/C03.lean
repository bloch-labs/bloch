import BlochVerif.Sim.History
import BlochVerif.Eval.QubitBookProofs
import BlochVerif.Eval.Shape
import BlochVerif.Eval.FlagsAgree
/-!
# C03 — the state stays a unit `2^n` vector, in any history, and qubit handles stay distinct

The first half is about the simulator over exact amplitudes; the qubit-handle half (distinct declarations never share a
simulator qubit) is about the evaluator's qubit book.
-/
namespace BlochVerif.Props.C03
open BlochVerif BlochVerif.Sim Finset

/-- **Every history.** After any finite sequence of allocations, gates, `cx`, measurements and
    resets — refused operations included, draws anywhere in `[0,1)` so outcomes of probability
    ~0 or ~1 are covered — the state has exactly `2^n` amplitudes, `n` the number of qubits
    allocated so far, and unit norm. -/
theorem state_stays_unit_vector (h : List (HOp ℝ)) (hd : ∀ op ∈ h, DrawOK op) :
    let st := runOps complexOps (State.init complexOps) h
    st.amps.size = 2 ^ st.n ∧ nrm2 (absArr st.amps) (2 ^ st.n) = 1 := by
  have := WF_run h (State.init complexOps) (WF_init _) hd
  exact ⟨this.size, this.norm⟩

theorem n_counts_allocations (h : List (HOp ℝ)) (st : State ℂ ℝ) :
    (runOps complexOps st h).n = st.n + (h.filter (fun o => match o with | .alloc => true | _ => false)).length := by
  induction h generalizing st with
  | nil => simp
  | cons op rest ih =>
    rw [runOps_cons, ih, stepOp_n]
    -- only an allocation changes `n` and passes the filter; it adds one on both sides
    cases op <;> simp
    omega

/-- **Allocation keeps the existing qubits' state**: the new vector is `ψ ⊗ |0⟩` — the old
    amplitudes in the lower half (new qubit = 0), zeros in the upper half — also after
    entanglement. -/
theorem allocation_preserves_existing_state (st : State ℂ ℝ) (hw : WF st) :
    (allocate complexOps st).2 = st.n ∧
    (allocate complexOps st).1.n = st.n + 1 ∧
    (allocate complexOps st).1.amps.size = 2 ^ (st.n + 1) ∧
    ∀ k, k < 2 ^ (st.n + 1) → (allocate complexOps st).1.amps[k]! =
      if k.testBit st.n then 0 else (absArr st.amps) k := by
  refine ⟨rfl, rfl, (WF_allocate st hw).size, fun k _ => ?_⟩
  show absArr _ k = _
  rw [absArr_allocate]
  split
  · exact absArr_of_size_le _ (by rw [hw.size]; exact Nat.ge_two_pow_of_testBit ‹_›)
  · rfl

/-! Non-vacuity: a history with entanglement, a measurement at draw 0 and an allocation after it. -/
example : ∀ op ∈ ([.alloc, .alloc, .gate (.h 0), .cx 0 1, .measure 0 0, .alloc, .reset 1 (1/2)] : List (HOp ℝ)),
    DrawOK op := by
  intro op hop
  simp only [List.mem_cons, List.mem_nil_iff, or_false] at hop
  rcases hop with h | h | h | h | h | h | h <;> subst h <;> simp [DrawOK] <;> norm_num

/-! ## qubit handles stay distinct, in any history (the evaluator's qubit book) -/
open BlochVerif.QubitBook

/-- After any sequence of local declarations, object constructions and object destructions, no two live
handles denote the same simulator qubit, and every live handle is inside the register. -/
theorem live_handles_are_distinct_in_any_history (ops : List Op) :
    (run {} ops).1.live.Nodup ∧ ∀ h ∈ (run {} ops).1.live, h < (run {} ops).1.next := by
  have hi := run_inv ops {} inv_init
  exact ⟨(List.nodup_append.mp hi.1).1, fun h hh => hi.2 h (List.mem_append_left _ hh)⟩

/-- Every handle handed out — fresh from the simulator or recycled from a destroyed object — is different
from every handle that is live at that moment, and the handles of one declaration are pairwise distinct. -/
theorem a_new_handle_never_aliases_a_live_one (ops : List Op) (op : Op) :
    let b := (run {} ops).1
    (∀ h ∈ (step b op).2, h ∉ b.live) ∧ (step b op).2.Nodup :=
  (step_spec _ (run_inv ops {} inv_init) op).2

/-- a released index is handed out again only after its owner died: recycling is last-released-first -/
example : (run {} [.newObj 1 2, .declare 1, .destroy 1, .declare 1, .newObj 2 2]).2 =
    [[0, 1], [2], [], [1], [0, 3]] := by decide

/-! ## evaluator level: every program, wherever a call has ended successfully -/
open BlochVerif.Eval BlochVerif.Parse

/-- **Whatever a program does** — any function, any body, any arguments, any fuel, any draws — the state vector the
simulator holds afterwards has exactly `2 ^ n` amplitudes for its `n` qubits, and `n` has not decreased: the
register is never shrunk, so an index that was inside the register stays inside it (induction principle of the
evaluator model, `Eval/Shape.lean`). -/
theorem a_program_keeps_the_state_vector_at_two_pow_n (fuel : Nat) (fn : FuncDecl) (args : List Value)
    (st st' : EState) (v : Value) (hs : st.sim.amps.size = 2 ^ st.sim.n)
    (h : (call fuel fn args).run st = .ok (v, st')) :
    st'.sim.amps.size = 2 ^ st'.sim.n ∧ st.sim.n ≤ st'.sim.n :=
  call_keeps_the_register_shaped fuel fn args st st' v hs h

/-- the same for a whole run, started from the empty register: the register handed back has `2 ^ n` amplitudes (a run
that fails hands back the empty register) -/
theorem a_run_ends_with_a_two_pow_n_state_vector (prog : Program) (draws : List Float) (e l : Bool) (fuel : Nat) :
    (execute prog draws e l fuel).sim.amps.size = 2 ^ (execute prog draws e l fuel).sim.n :=
  execute_shaped prog draws e l fuel

/-- the evaluator's own qubit table has one entry per simulator qubit after every successful call from an agreeing state (`Eval.Agree`, the
invariant of C06, carries the count) -/
theorem the_evaluator_knows_exactly_the_simulators_qubits (fuel : Nat) (fn : FuncDecl) (args : List Value)
    (st st' : EState) (v : Value) (hi : Agree st) (h : (call fuel fn args).run st = .ok (v, st')) :
    st'.qubits.length = st'.sim.n ∧ st'.sim.measured.size = st'.sim.n :=
  let a := call_keeps_flags_in_agreement fuel fn args st st' v hi h
  ⟨a.count, a.flags⟩

/-- the hypotheses are met by the state every run starts in -/
example (prog : Program) (draws : List Float) (e l : Bool) :
    (startState prog draws e l).sim.amps.size = 2 ^ (startState prog draws e l).sim.n ∧
      Agree (startState prog draws e l) :=
  ⟨shaped_start prog draws e l, agree_start prog draws e l⟩

end BlochVerif.Props.C03
