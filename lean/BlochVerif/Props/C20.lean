import BlochVerif.Update.Proofs
import BlochVerif.Generated.UpdateConsts
/-!
# C20 — self-update: strictly newer only, exact checksum line, throttled notice

Model: `BlochVerif/Update/Model.lean` (decision logic of `update_manager.cpp`; the network result
and the clock are inputs).  Core-only proofs.
-/
namespace BlochVerif.Props.C20
open BlochVerif.Update

def tripleLt (a b : SemVer) : Prop :=
  a.major < b.major ∨ (a.major = b.major ∧ a.minor < b.minor) ∨
    (a.major = b.major ∧ a.minor = b.minor ∧ a.patch < b.patch)

/-- **Versions are compared numerically as triples.** `compareSemVer` is the lexicographic comparison of
    `(major, minor, patch)` in `ℕ³` when both versions are valid, and 0 otherwise. -/
theorem compare_is_triple_order (a b : SemVer) :
    (compareSemVer a b = -1 ↔ a.valid = true ∧ b.valid = true ∧ tripleLt a b) ∧
    (compareSemVer a b = 1 ↔ a.valid = true ∧ b.valid = true ∧ tripleLt b a) ∧
    (compareSemVer a b = -1 ∨ compareSemVer a b = 0 ∨ compareSemVer a b = 1) := by
  unfold compareSemVer tripleLt
  by_cases hv : a.valid = true ∧ b.valid = true
  · simp only [hv.1, hv.2, Bool.not_true, Bool.or_self, Bool.false_eq_true, if_false, true_and]
    (repeat' split) <;> omega
  · cases ha : a.valid <;> cases hb : b.valid <;> simp_all

/-- and it is 0 on valid versions exactly for equal triples -/
theorem compare_eq_zero_iff (a b : SemVer) (ha : a.valid = true) (hb : b.valid = true) :
    compareSemVer a b = 0 ↔ a.major = b.major ∧ a.minor = b.minor ∧ a.patch = b.patch := by
  obtain ⟨h1, h2, hr⟩ := compare_is_triple_order a b
  simp only [ha, hb, true_and] at h1 h2
  unfold tripleLt at h1 h2
  omega

theorem compare_antisymm (a b : SemVer) : compareSemVer a b = - compareSemVer b a := by
  obtain ⟨ab1, ab2, abr⟩ := compare_is_triple_order a b
  obtain ⟨ba1, ba2, bar⟩ := compare_is_triple_order b a
  -- "a below b" is both `compare a b = -1` and `compare b a = 1`; likewise the other way round
  rw [← and_left_comm, ← ba2] at ab1
  rw [← and_left_comm, ← ba1] at ab2
  omega

/-- the gate the installer and the notice share: "not `≥ 0`" says that both versions parse and the current triple is
the smaller one (an unparsable side compares as 0) -/
theorem compare_neg_iff (a b : SemVer) :
    ¬ compareSemVer a b ≥ 0 ↔ a.valid = true ∧ b.valid = true ∧ tripleLt a b := by
  obtain ⟨h1, -, hr⟩ := compare_is_triple_order a b
  rw [← h1]; omega

theorem tripleLt_trans (a b c : SemVer) (h1 : tripleLt a b) (h2 : tripleLt b c) : tripleLt a c := by
  unfold tripleLt at *; omega

theorem tripleLt_irrefl (a : SemVer) : ¬ tripleLt a a := by unfold tripleLt; omega

/-- **Parsing is numeric, not textual**: `[v]A.B.C<suffix>` parses to the numbers `(A, B, C)` for
    every `A B C ≤ INT_MAX` and every suffix that does not start with a digit
    (so `1.10.0 > 1.9.0`). -/
theorem parse_numeric (a b c : Nat) (ha : a ≤ intMax) (hb : b ≤ intMax) (hc : c ≤ intMax)
    (suffix : List Char) (hs : startsNonDigit suffix) (v : Bool) :
    parseSemVer ((if v then ['v'] else []) ++ natDigits a ++ '.' :: (natDigits b ++ '.' :: (natDigits c ++ suffix))) =
      { major := a, minor := b, patch := c, valid := true } := by
  have hdot : ∀ r, startsNonDigit ('.' :: r) := fun _ => by show isDigit '.' = false; decide
  have core : parseFrom 3 (natDigits a ++ '.' :: (natDigits b ++ '.' :: (natDigits c ++ suffix))) SemVer.invalid =
      { major := a, minor := b, patch := c, valid := true } := by
    rw [parseFrom_natDigits 2 a (hdot _), if_pos ha]
    simp only
    rw [parseFrom_natDigits 1 b (hdot _), if_pos hb]
    simp only
    rw [parseFrom_natDigits 0 c hs, if_pos hc]
    -- third component: whatever follows is ignored (`parseFrom 0` returns what it has)
    split <;> rfl
  cases v
  · -- no prefix: the first character is a digit, not 'v'
    cases hda : natDigits a with
    | nil => exact absurd hda (natDigits_ne_nil a)
    | cons d ds =>
      have hv : d ≠ 'v' := by
        intro e
        have hdig : isDigit d = true := allDigits_natDigits a d (by rw [hda]; exact List.mem_cons_self ..)
        rw [e] at hdig; revert hdig; decide
      rw [hda] at core
      unfold parseSemVer
      split
      · rename_i h; cases h
      · rename_i r h; injection h with h1 _; exact absurd h1 hv
      · exact core
  · exact core

/-- missing components default to 0: `vA<suffix>` with a suffix starting with neither a digit
    nor a dot parses to `(A, 0, 0)` -/
theorem parse_single_component (a : Nat) (ha : a ≤ intMax) (suffix : List Char)
    (hs : startsNonDigit suffix) (hdot : ∀ r, suffix ≠ '.' :: r) :
    parseSemVer ('v' :: (natDigits a ++ suffix)) = { major := a, minor := 0, patch := 0, valid := true } := by
  show parseFrom 3 (natDigits a ++ suffix) SemVer.invalid = _
  rw [parseFrom_natDigits 2 a hs, if_pos ha]
  split
  · exact absurd rfl (hdot _)
  · rfl

/-- a first component beyond `INT_MAX` (in `vA<rest>`) makes the version invalid — it is never an
    exception and never a wrapped-around number -/
theorem overflow_component_is_invalid (a : Nat) (ha : ¬ a ≤ intMax) (rest : List Char)
    (hs : startsNonDigit rest) :
    (parseSemVer ('v' :: (natDigits a ++ rest))).valid = false := by
  show (parseFrom 3 (natDigits a ++ rest) SemVer.invalid).valid = false
  rw [parseFrom_natDigits 2 a hs, if_neg ha]
  rfl

/-- **Install only a strictly newer release.** -/
theorem install_iff_strictly_newer (current latest : List Char) :
    decideUpdate current latest = .install ↔
      (parseSemVer current).valid = true ∧ (parseSemVer latest).valid = true ∧
        tripleLt (parseSemVer current) (parseSemVer latest) := by
  unfold decideUpdate
  simp only
  split
  · rename_i hv
    exact ⟨nofun, fun ⟨hc, hl, _⟩ => by simp [hc, hl] at hv⟩
  · rw [← compare_neg_iff]; split <;> simp [*]

/-- **'already latest' otherwise**, and **never act on a version that cannot be parsed**. -/
theorem decision_cases (current latest : List Char) :
    (decideUpdate current latest = .unparsable ↔
      ((parseSemVer current).valid = false ∨ (parseSemVer latest).valid = false)) ∧
    (decideUpdate current latest = .alreadyLatest ↔
      ((parseSemVer current).valid = true ∧ (parseSemVer latest).valid = true ∧
        ¬ tripleLt (parseSemVer current) (parseSemVer latest))) := by
  have hi := install_iff_strictly_newer current latest
  unfold decideUpdate at hi ⊢
  simp only at hi ⊢
  cases hc : (parseSemVer current).valid <;> cases hl : (parseSemVer latest).valid <;> simp [hc, hl] at hi ⊢
  -- both parse: of the two verdicts left, `alreadyLatest` is the one that is not `install`
  by_cases hge : 0 ≤ compareSemVer (parseSemVer current) (parseSemVer latest)
  · simp [hge]
    exact fun ht => absurd (hi.mpr ht) (by omega)
  · simp [hge]
    exact hi.mp (by omega)

/-- the notice is printed only for a strictly newer, parsable release, and only when the previous
    notice is at least 72 h old -/
theorem notice_only_if_newer_and_due (latest current : List Char) (now : Int) (c : Cache)
    (h : (maybeNotice latest current now c).2 = true) :
    (parseSemVer current).valid = true ∧ (parseSemVer latest).valid = true ∧
      tripleLt (parseSemVer current) (parseSemVer latest) ∧ now - c.lastNotified ≥ window ∧
      (maybeNotice latest current now c).1.lastNotified = now := by
  rcases maybeNotice_spec latest current now c with h0 | ⟨h1, -, hg, hlt⟩
  · rw [h0] at h; cases h
  · obtain ⟨hc, hl, ht⟩ := (compare_neg_iff _ _).mp hlt
    exact ⟨hc, hl, ht, hg, by rw [h1]⟩

theorem no_notice_no_change (latest current : List Char) (now : Int) (c : Cache)
    (h : (maybeNotice latest current now c).2 = false) : (maybeNotice latest current now c).1 = c := by
  rcases maybeNotice_spec latest current now c with h0 | ⟨h1, -⟩
  · rw [h0]
  · rw [h1] at h; cases h

/-- **Disabled by environment: never a notice, never a cache write.** -/
theorem disabled_never (file : Option Cache) (inv : Invocation) (h : inv.skip = true) :
    checkIfDue file inv = (file, 0) := by
  unfold checkIfDue; simp [h]

/-- **The checksum used is the one listed for exactly that asset name.** -/
theorem checksum_is_exact_line (content asset hash : List Char)
    (h : parseChecksum content asset = some hash) :
    ∃ line ∈ lines content, ∃ name rest,
      fields line = hash :: name :: rest ∧ stripStar name = asset := by
  unfold parseChecksum at h
  obtain ⟨line, hmem, hl⟩ := List.exists_of_findSome?_eq_some h
  refine ⟨line, hmem, ?_⟩
  unfold lineHash at hl
  split at hl
  · rename_i hh name rest heq
    split at hl
    · rename_i hname
      injection hl with hl; subst hl
      exact ⟨name, rest, heq, hname⟩
    · cases hl
  · cases hl

/-- and if no line lists exactly that asset there is no checksum (never a similarly named one) -/
theorem checksum_none_iff (content asset : List Char) :
    parseChecksum content asset = none ↔ ∀ line ∈ lines content, lineHash asset line = none := by
  unfold parseChecksum
  exact List.findSome?_eq_none_iff

theorem at_most_one_notice_per_invocation (file : Option Cache) (inv : Invocation) :
    (checkIfDue file inv).2 ≤ 1 := by
  rcases checkIfDue_stamped file inv with ⟨hk, _⟩ | ⟨hk, _⟩ <;> omega

/-- consecutive notice times are at least 72 h apart -/
def gapsOK : List Int → Prop
  | [] => True
  | [_] => True
  | a :: b :: r => b - a ≥ window ∧ gapsOK (b :: r)

theorem gapsOK_cons (a : Int) (l : List Int) (h1 : gapsOK l)
    (h2 : ∀ t, l.head? = some t → t - a ≥ window) : gapsOK (a :: l) := by
  cases l with
  | nil => trivial
  | cons b r => exact ⟨h2 b rfl, h1⟩

/-- the window property with an absent cache file read as the default cache, whose stamp is 0 -/
theorem notice_window (invs : List Invocation) (file : Option Cache) :
    gapsOK (runInvocations file invs) ∧
    ∀ t, (runInvocations file invs).head? = some t → t - (file.getD {}).lastNotified ≥ window := by
  induction invs generalizing file with
  | nil => exact ⟨trivial, nofun⟩
  | cons inv rest ih =>
    unfold runInvocations
    simp only
    obtain ⟨g, hfirst⟩ := ih (checkIfDue file inv).1
    rcases checkIfDue_stamped file inv with ⟨hk, hs⟩ | ⟨hk, hs, hg⟩ <;> rw [hs] at hfirst <;> rw [hk]
    · exact ⟨g, hfirst⟩
    · exact ⟨gapsOK_cons _ _ g hfirst, fun t ht => by cases ht; exact hg⟩

/-- **At most one notice per 72-hour window**, for every sequence of invocations (any clock
    readings, any fetch results, any current versions, any environment switches) over a cache file
    that only the updater writes: any two consecutive notices are at least 72 h apart, and the first
    one is at least 72 h after the time recorded in the cache file the sequence started from.  That one
    invocation prints at most one notice is `at_most_one_notice_per_invocation`. -/
theorem notice_at_most_once_per_window (invs : List Invocation) (file : Option Cache) :
    gapsOK (runInvocations file invs) ∧
    (∀ c, file = some c → ∀ t, (runInvocations file invs).head? = some t →
      t - c.lastNotified ≥ window) :=
  ⟨(notice_window invs file).1, fun _ hc => hc ▸ (notice_window invs file).2⟩

/-! Non-vacuity: the model functions evaluated on concrete inputs (`1.10.0` against `1.9.0` both ways, an
unparsable version, a checksum file that lists a similarly named asset first). -/
example : parseSemVer ['v', '1', '.', '1', '0', '.', '0'] = { major := 1, minor := 10, patch := 0, valid := true } := by decide
example : decideUpdate ['1', '.', '9', '.', '0'] ['v', '1', '.', '1', '0', '.', '0'] = .install := by decide
example : decideUpdate ['1', '.', '1', '0', '.', '0'] ['1', '.', '9', '.', '0'] = .alreadyLatest := by decide
example : decideUpdate ['1', '.', '0', '.', '0'] ['g', 'a', 'r'] = .unparsable := by decide
example : parseChecksum ['a', ' ', 'x', '.', 's', '\n', 'b', ' ', ' ', 'x', '\n'] ['x'] = some ['b'] := by decide

/-- `Generated/UpdateConsts.lean` is rewritten on every run from `update_manager.cpp`: the model's notice window is
`kUpdateWindow` (72 hours), and the check is disabled by the presence of exactly the three documented variables -/
theorem window_and_switches_are_the_source_constants :
    window = (Generated.updateWindowSeconds : Int) ∧ Generated.updateWindowSeconds = 72 * 3600 ∧
      Generated.skipEnvNames = ["BLOCH_NO_UPDATE_CHECK", "CI", "BLOCH_OFFLINE"] := by
  decide

end BlochVerif.Props.C20
