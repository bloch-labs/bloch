import BlochVerif.Life.Proofs
import BlochVerif.Gc.Sim
/-!
# Reference counting and the cycle collector together (C11 with destructors)

`Life.Model` with a collection possible before every primitive step.  A collection clears the fields of every object no
slot reaches (the implementation then drops those objects without running their destructors); references from such
garbage to objects that are still in use are *not* released (the implementation parks them in `m_limbo`), so the counts
of live objects — and with them the moment their destructors run — do not depend on when the collector happened to run.
The theorem: under every schedule the output, destructor lines included, is that of the run without collections.
-/
namespace BlochVerif.Life
open BlochVerif.Gc (Fld Prim Reach WFHeap succs markRoots)

def view (o : LObj) : Gc.Obj := { id := o.id, a := o.a, b := o.b }
def hv (h : List LObj) : Gc.Heap := h.map view
def roots (s : St) : List Nat := s.slots.filterMap id

/-- sweep: the fields of unmarked objects are cleared; counts stay as they are (limbo) -/
def lsweep (h : List LObj) (marked : List Nat) : List LObj :=
  h.zipIdx.map (fun (o, i) => if i ∈ marked then o else { o with a := none, b := none })

def lcollect (s : St) : St := { s with heap := lsweep s.heap (markRoots (hv s.heap) (roots s)) }

def gcPoint (sched : Nat → Bool) (k : Nat) (s : St) : St := if sched k then lcollect s else s

/-- the scheduled run: before the `k`-th primitive step a collection happens iff `sched k` -/
def execS (sched : Nat → Bool) : Nat → List Prim → St → St
  | _, [], s => s
  | k, p :: ps, s => execS sched (k + 1) ps (prim (gcPoint sched k s) p)

theorem hv_get (h : List LObj) (i : Nat) : (hv h)[i]? = (h[i]?).map view := by simp [hv]
theorem hv_length (h : List LObj) : (hv h).length = h.length := by simp [hv]

theorem succs_hv (h : List LObj) (x : Nat) :
    succs (hv h) x = match h[x]? with
      | some o => o.a.toList ++ o.b.toList
      | none => [] := by
  unfold succs
  rw [hv_get]
  cases h[x]? <;> rfl

theorem succs_hv_congr {h1 h2 : List LObj} {x : Nat} (he : h1[x]? = h2[x]?) : succs (hv h1) x = succs (hv h2) x :=
  Gc.succs_congr (by rw [hv_get, hv_get, he])

theorem view_put (o : LObj) (f : Fld) (v : Option Nat) : view (o.put f v) = (view o).put f v := by cases f <;> rfl

theorem hv_retain (s : St) (v : Option Nat) : hv (retain s v).heap = hv s.heap := by
  apply List.ext_getElem?
  intro i
  rw [hv_get, hv_get, retain_get]
  cases s.heap[i]? <;> rfl

theorem roots_retain (s : St) (v : Option Nat) : roots (retain s v) = roots s := by
  unfold roots; rw [retain_slots]

theorem lsweep_length (h : List LObj) (m : List Nat) : (lsweep h m).length = h.length := by simp [lsweep]

theorem lsweep_get (h : List LObj) (m : List Nat) (i : Nat) :
    (lsweep h m)[i]? = (h[i]?).map (fun o => if i ∈ m then o else { o with a := none, b := none }) := by
  simp only [lsweep, List.getElem?_map, List.getElem?_zipIdx]
  cases h[i]? <;> simp

theorem lsweep_get_marked (h : List LObj) (m : List Nat) (i : Nat) (hi : i ∈ m) : (lsweep h m)[i]? = h[i]? := by
  rw [lsweep_get]; cases h[i]? <;> simp [hi]

theorem hv_lsweep (h : List LObj) (m : List Nat) : hv (lsweep h m) = Gc.sweep (hv h) m := by
  simp only [hv, lsweep, Gc.sweep, List.zipIdx_map, List.map_map]
  apply List.map_congr_left
  intro p _
  simp only [Function.comp, Prod.map, id]
  split <;> rfl

/-! ### the simulation relation: `s1` runs with collections, `s2` without; `extra` are references in flight (the old
content of a slot or field on its way to `release`) -/

structure LSim (extra : List Nat) (s1 s2 : St) : Prop where
  slots : s1.slots = s2.slots
  out : s1.out = s2.out
  len : s1.heap.length = s2.heap.length
  agree : ∀ i, Reach (hv s2.heap) (roots s2 ++ extra) i → s1.heap[i]? = s2.heap[i]?
  wf1 : WFHeap (hv s1.heap)
  wf2 : WFHeap (hv s2.heap)
  rootsValid : ∀ r ∈ roots s2 ++ extra, r < s2.heap.length

theorem LSim.heaps {e : List Nat} {s1 s2 : St} (h : LSim e s1 s2) : Gc.HSim view (roots s2 ++ e) s1.heap s2.heap :=
  ⟨h.len, h.agree, h.wf1, h.wf2, h.rootsValid⟩

theorem LSim.of_heaps {e : List Nat} {s1 s2 : St} (hs : s1.slots = s2.slots) (ho : s1.out = s2.out)
    (h : Gc.HSim view (roots s2 ++ e) s1.heap s2.heap) : LSim e s1 s2 :=
  ⟨hs, ho, h.len, h.agree, h.wf1, h.wf2, h.valid⟩

theorem LSim.roots_eq {e : List Nat} {s1 s2 : St} (h : LSim e s1 s2) : roots s1 = roots s2 := by
  unfold Life.roots; rw [h.slots]

theorem LSim.getSlot_eq {e : List Nat} {s1 s2 : St} (h : LSim e s1 s2) (d : Nat) : getSlot s1 d = getSlot s2 d := by
  unfold Life.getSlot; rw [h.slots]

theorem LSim.get_eq {e : List Nat} {s1 s2 : St} (h : LSim e s1 s2) (x : Nat)
    (hx : Reach (hv s2.heap) (roots s2 ++ e) x) : s1.heap[x]? = s2.heap[x]? := h.agree x hx

/-- the references in flight may be exchanged for any that are in use already -/
theorem LSim.weaken {e e' : List Nat} {s1 s2 : St} (h : LSim e s1 s2)
    (hsub : ∀ r ∈ e', Reach (hv s2.heap) (roots s2 ++ e) r) : LSim e' s1 s2 :=
  .of_heaps h.slots h.out <| h.heaps.mono fun r hr =>
    (List.mem_append.mp hr).elim (fun h1 => Reach.root (List.mem_append_left _ h1)) (hsub r)

theorem LSim.drop {e e' : List Nat} {s1 s2 : St} (h : LSim e s1 s2) (hsub : ∀ r ∈ e', r ∈ e) : LSim e' s1 s2 :=
  h.weaken fun r hr => Reach.root (List.mem_append_right _ (hsub r hr))

theorem LSim.init : LSim [] initSt initSt :=
  ⟨rfl, rfl, rfl, fun _ _ => rfl, fun x y hy => by simp [succs, hv, initSt] at hy,
    fun x y hy => by simp [succs, hv, initSt] at hy, fun r hr => by simp [roots, initSt] at hr⟩

theorem gcPoint_sim {s1 s2 : St} (sched : Nat → Bool) (k : Nat) (h : LSim [] s1 s2) : LSim [] (gcPoint sched k s1) s2 := by
  unfold gcPoint
  split
  · refine .of_heaps h.slots h.out (h.heaps.collect (lsweep_length _ _) (fun i hi => ?_) ?_)
    · rw [List.append_nil, ← h.roots_eq] at hi
      exact lsweep_get_marked _ _ i hi
    · show WFHeap (hv (lsweep _ _))
      rw [hv_lsweep]; exact Gc.sweep_wf _ _ h.wf1
  · exact h

theorem set_sim {e : List Nat} {s1 s2 : St} (h : LSim e s1 s2) (x : Nat) (o' : LObj)
    (hs : ∀ y ∈ o'.a.toList ++ o'.b.toList, Reach (hv s2.heap) (roots s2 ++ e) y) :
    LSim e { s1 with heap := s1.heap.set x o' } { s2 with heap := s2.heap.set x o' } :=
  .of_heaps h.slots h.out (h.heaps.set x o' hs)

theorem out_sim {e : List Nat} {s1 s2 : St} (h : LSim e s1 s2) (l : List String) :
    LSim e { s1 with out := s1.out ++ l } { s2 with out := s2.out ++ l } :=
  .of_heaps h.slots (by simp [h.out]) h.heaps

theorem reach_field {h : List LObj} {R : List Nat} {x y : Nat} {o : LObj} (hx : Reach (hv h) R x) (ho : h[x]? = some o)
    (hy : y ∈ o.a.toList ++ o.b.toList) : Reach (hv h) R y :=
  Gc.reach_field (o := view o) hx (by rw [hv_get, ho]; rfl) hy

theorem reach_get {h : List LObj} {R : List Nat} {x y : Nat} {o : LObj} (hx : Reach (hv h) R x) (ho : h[x]? = some o)
    {f : Fld} (hy : o.get f = some y) : Reach (hv h) R y :=
  reach_field hx ho (by cases f <;> simp only [LObj.get] at hy <;> simp [hy])

theorem slot_reach {s : St} {e : List Nat} {d x : Nat} (h : getSlot s d = some x) : Reach (hv s.heap) (roots s ++ e) x :=
  Reach.root (List.mem_append_left _ (Gc.mem_roots_of_slot h))

theorem opt_toList_some (x : Nat) : (some x : Option Nat).toList = [x] := rfl

/-- releasing a reference in flight behaves the same on both sides — count down, or destructor line, kill and cascade —
and afterwards the reference is gone from flight -/
theorem release_sim : ∀ (fuel : Nat) (s1 s2 : St) (v : Option Nat) (e : List Nat),
    LSim (v.toList ++ e) s1 s2 → LSim e (release fuel s1 v) (release fuel s2 v) := by
  intro fuel
  induction fuel with
  | zero =>
    intro s1 s2 v e h
    rw [release_zero, release_zero]
    exact h.drop fun r hr => List.mem_append_right _ hr
  | succ fuel ih =>
    intro s1 s2 v e h
    have hdrop : LSim e s1 s2 := h.drop fun r hr => List.mem_append_right _ hr
    cases v with
    | none => rw [release_none, release_none]; exact hdrop
    | some x =>
      have hxr : Reach (hv s2.heap) (roots s2 ++ ((some x).toList ++ e)) x :=
        Reach.root (List.mem_append_right _ (List.mem_append_left _ (by simp)))
      have heq := h.agree x hxr
      cases ho : s2.heap[x]? with
      | none =>
        rw [release_miss fuel s2 x ho, release_miss fuel s1 x (by rw [heq, ho])]
        exact hdrop
      | some o =>
        have ho1 : s1.heap[x]? = some o := by rw [heq, ho]
        cases hd : o.dead with
        | true =>
          rw [release_dead fuel s2 x o ho hd, release_dead fuel s1 x o ho1 hd]
          exact hdrop
        | false =>
          rw [release_succ fuel s2 x o ho hd, release_succ fuel s1 x o ho1 hd]
          have hfield : ∀ y ∈ o.a.toList ++ o.b.toList, Reach (hv s2.heap) (roots s2 ++ ((some x).toList ++ e)) y :=
            fun y hy => reach_field hxr ho hy
          by_cases hgt : o.rc > 1
          · rw [if_pos hgt, if_pos hgt]
            exact (set_sim h x { o with rc := o.rc - 1 } hfield).drop fun r hr => List.mem_append_right _ hr
          · rw [if_neg hgt, if_neg hgt]
            -- the fields join the references in flight, then the object is emptied on both sides
            have h1 : LSim (o.a.toList ++ (o.b.toList ++ e)) s1 s2 := by
              refine h.weaken fun r hr => ?_
              rw [← List.append_assoc] at hr
              rcases List.mem_append.mp hr with h2 | h2
              · exact hfield r h2
              · exact Reach.root (List.mem_append_right _ (List.mem_append_right _ h2))
            have h2 : LSim (o.a.toList ++ (o.b.toList ++ e)) (killSt s1 x o) (killSt s2 x o) :=
              out_sim (set_sim h1 x (kill o) (fun y hy => by simp [kill] at hy)) [s!"d{o.id}"]
            exact ih _ _ o.b e (ih _ _ o.a (o.b.toList ++ e) h2)

theorem release_len_sim {s1 s2 : St} {v : Option Nat} {e : List Nat} (h : LSim (v.toList ++ e) s1 s2) :
    LSim e (release s1.heap.length s1 v) (release s2.heap.length s2 v) := by
  rw [h.len]; exact release_sim _ _ _ _ _ h

theorem retain_sim {e : List Nat} {s1 s2 : St} (h : LSim e s1 s2) (v : Option Nat)
    (hvr : ∀ x, v = some x → Reach (hv s2.heap) (roots s2 ++ e) x) : LSim e (retain s1 v) (retain s2 v) := by
  cases v with
  | none => exact h
  | some x =>
    have hx := hvr x rfl
    have heq := h.agree x hx
    cases ho : s2.heap[x]? with
    | none => rw [retain_miss s2 x ho, retain_miss s1 x (by rw [heq, ho])]; exact h
    | some o =>
      rw [retain_some s2 x o ho, retain_some s1 x o (by rw [heq, ho])]
      exact set_sim h x _ (fun y hy => reach_field hx ho hy)

/-- overwriting a slot: its old content goes into flight -/
theorem setSlotRaw_sim {e : List Nat} {s1 s2 : St} (h : LSim e s1 s2) (d : Nat) (v : Option Nat)
    (hvr : ∀ x, v = some x → Reach (hv s2.heap) (roots s2 ++ e) x) :
    LSim ((getSlot s2 d).toList ++ e) (setSlotRaw s1 d v) (setSlotRaw s2 d v) := by
  refine .of_heaps (by simp [setSlotRaw, h.slots]) h.out (h.heaps.mono fun r hr => ?_)
  rcases List.mem_append.mp hr with h1 | h1
  · rcases Gc.mem_roots_set h1 with h2 | h2
    · exact Reach.root (List.mem_append_left _ h2)
    · exact hvr r h2
  · rcases List.mem_append.mp h1 with h2 | h2
    · exact slot_reach (Option.mem_toList.mp h2)
    · exact Reach.root (List.mem_append_right _ h2)

/-- overwriting a field of an object in use: its old content goes into flight -/
theorem setField_sim {e : List Nat} {s1 s2 : St} (h : LSim e s1 s2) {x : Nat} {o : LObj}
    (hx : Reach (hv s2.heap) (roots s2 ++ e) x) (ho : s2.heap[x]? = some o) (f : Fld) (v : Option Nat)
    (hvr : ∀ y, v = some y → Reach (hv s2.heap) (roots s2 ++ e) y) :
    LSim ((o.get f).toList ++ e) { s1 with heap := s1.heap.set x (o.put f v) }
      { s2 with heap := s2.heap.set x (o.put f v) } := by
  have hw : LSim ((o.get f).toList ++ e) s1 s2 := by
    refine h.weaken fun r hr => ?_
    rcases List.mem_append.mp hr with h1 | h1
    · exact reach_get hx ho (Option.mem_toList.mp h1)
    · exact Reach.root (List.mem_append_right _ h1)
  refine set_sim hw x _ fun y hy => ?_
  refine Gc.reach_mono_roots (fun r hr => Reach.root ?_) y ?_ (roots' := roots s2 ++ e)
  · rcases List.mem_append.mp hr with h1 | h1
    · exact List.mem_append_left _ h1
    · exact List.mem_append_right _ (List.mem_append_right _ h1)
  · have hy' : y ∈ (view (o.put f v)).a.toList ++ (view (o.put f v)).b.toList := hy
    rw [view_put] at hy'
    rcases Gc.succs_put_sub (view o) f v y hy' with h1 | h1
    · exact reach_field hx ho h1
    · exact hvr y h1

/-- allocation: the fresh object (no fields yet) is in flight until a slot takes it -/
theorem append_sim {e : List Nat} {s1 s2 : St} (h : LSim e s1 s2) (o : LObj) (ha : o.a = none) (hb : o.b = none) :
    LSim (s2.heap.length :: e) { s1 with heap := s1.heap ++ [o] } { s2 with heap := s2.heap ++ [o] } := by
  refine .of_heaps h.slots h.out (h.heaps.append o ha hb fun r hr => ?_)
  rcases List.mem_append.mp hr with h1 | h1
  · exact Or.inr (Reach.root (List.mem_append_left _ h1))
  · rcases List.mem_cons.mp h1 with h2 | h2
    · exact Or.inl h2
    · exact Or.inr (Reach.root (List.mem_append_right _ h2))

theorem assignSlot_sim {s1 s2 : St} (h : LSim [] s1 s2) (d : Nat) (v : Option Nat)
    (hvr : ∀ x, v = some x → Reach (hv s2.heap) (roots s2 ++ []) x) :
    LSim [] (assignSlot s1 d v) (assignSlot s2 d v) := by
  have hs := setSlotRaw_sim (retain_sim h v hvr) d v (by rw [hv_retain, roots_retain]; exact hvr)
  rw [getSlot_retain] at hs
  unfold assignSlot
  rw [h.getSlot_eq d]
  exact release_len_sim hs

theorem idStr_eq {e : List Nat} {s1 s2 : St} (h : LSim e s1 s2) {x : Nat} (hx : Reach (hv s2.heap) (roots s2 ++ e) x) :
    idStr s1.heap x = idStr s2.heap x := by
  unfold idStr; rw [h.agree x hx]

theorem prim_sim {s1 s2 : St} (h : LSim [] s1 s2) (p : Prim) : LSim [] (prim s1 p) (prim s2 p) := by
  cases p with
  | new d n =>
    simp only [prim]
    rw [h.getSlot_eq d, h.len]
    have hs := setSlotRaw_sim (append_sim h { id := n, rc := 1 } rfl rfl) d (some s2.heap.length)
      (fun x hx => Reach.root (List.mem_append_right _ (by simp [← Option.some.inj hx])))
    exact (release_len_sim hs).drop fun r hr => by cases hr
  | set f d src =>
    simp only [prim]
    rw [h.getSlot_eq d, h.getSlot_eq src]
    cases hx : getSlot s2 d with
    | none => exact h
    | some x =>
      have hxr : Reach (hv s2.heap) (roots s2 ++ []) x := slot_reach hx
      simp only [h.agree x hxr]
      cases ho : s2.heap[x]? with
      | none => exact h
      | some o =>
        have hr := retain_sim h (getSlot s2 src) (fun y hy => slot_reach hy)
        have ho1 := retain_get s2 (getSlot s2 src) x
        rw [ho] at ho1
        have hxr' : Reach (hv (retain s2 (getSlot s2 src)).heap) (roots (retain s2 (getSlot s2 src)) ++ []) x := by
          rw [hv_retain, roots_retain]; exact hxr
        simp only [hr.agree x hxr', ho1, Option.map_some]
        have hs := setField_sim hr hxr' ho1 f (getSlot s2 src) (fun y hy => by
          rw [hv_retain, roots_retain]; exact slot_reach hy)
        rw [get_rc] at hs
        exact release_len_sim hs
  | load f d src =>
    simp only [prim]
    rw [h.getSlot_eq src]
    cases hx : getSlot s2 src with
    | none => exact h
    | some x =>
      have hxr : Reach (hv s2.heap) (roots s2 ++ []) x := slot_reach hx
      simp only [h.agree x hxr]
      cases ho : s2.heap[x]? with
      | none => exact h
      | some o => exact assignSlot_sim h d _ fun y hy => reach_get hxr ho hy
  | mov d src =>
    simp only [prim]
    rw [h.getSlot_eq src]
    exact assignSlot_sim h d _ (fun y hy => slot_reach hy)
  | clr d => exact assignSlot_sim h d none (fun y hy => by cases hy)
  | «show» d =>
    simp only [prim]
    rw [h.getSlot_eq d]
    cases hx : getSlot s2 d with
    | none => exact out_sim h _
    | some x =>
      simp only [idStr_eq h (slot_reach hx)]
      exact out_sim h _
  | showA d =>
    simp only [prim]
    rw [h.getSlot_eq d]
    cases hx : getSlot s2 d with
    | none => exact out_sim h _
    | some x =>
      have hxr : Reach (hv s2.heap) (roots s2 ++ []) x := slot_reach hx
      simp only [h.agree x hxr]
      cases ho : s2.heap[x]? with
      | none => exact out_sim h _
      | some o =>
        simp only
        cases hy : o.a with
        | none => exact out_sim h _
        | some y =>
          simp only [idStr_eq h (reach_field hxr ho (y := y) (by simp [hy]))]
          exact out_sim h _
  | showNN d =>
    simp only [prim]
    rw [h.getSlot_eq d]
    cases hx : getSlot s2 d with
    | none => exact h
    | some x =>
      simp only [idStr_eq h (slot_reach hx)]
      exact out_sim h _

theorem exec_sim (sched : Nat → Bool) : ∀ (ps : List Prim) (k : Nat) (s1 s2 : St), LSim [] s1 s2 →
    LSim [] (execS sched k ps s1) (exec ps s2)
  | [], _, _, _, h => h
  | p :: ps, k, _, _, h => exec_sim sched ps (k + 1) _ _ (prim_sim (gcPoint_sim sched k h) p)

def runOpsS (sched : Nat → Bool) (ops : List Gc.Op) : St := execS sched 0 (ops.flatMap Gc.compile) initSt

theorem fold_assign_sim : ∀ (ds : List Nat) (s1 s2 : St), LSim [] s1 s2 →
    LSim [] (ds.foldl (fun st d => assignSlot st d none) s1) (ds.foldl (fun st d => assignSlot st d none) s2)
  | [], _, _, h => h
  | d :: ds, _, _, h => fold_assign_sim ds _ _ (assignSlot_sim h d none (fun y hy => by cases hy))

/-- **Garbage collection is unobservable, destructors included.**  Under every schedule of collections the program
prints what it prints without any collection — echo lines and destructor lines, in the same order — and the variables
of `main` then die with the same destructor lines. -/
theorem schedule_unobservable_with_destructors (sched : Nat → Bool) (ops : List Gc.Op) :
    (runOpsS sched ops).out = (runOps ops).out ∧
    finalDestructors (runOpsS sched ops) = finalDestructors (runOps ops) := by
  have h : LSim [] (runOpsS sched ops) (runOps ops) := exec_sim sched _ 0 _ _ LSim.init
  have h0 : LSim [] { runOpsS sched ops with out := [] } { runOps ops with out := [] } :=
    .of_heaps h.slots rfl h.heaps
  exact ⟨h.out, (fold_assign_sim [3, 2, 1, 0] _ _ h0).out⟩

end BlochVerif.Life
