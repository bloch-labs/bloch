import BlochVerif.Life.Model
/-! Reference counts are exact (`Inv`): the count stored in a live object is the number of slots and fields of live
objects that point to it.  In the middle of a primitive the two differ by the references in flight (retained and not yet
stored, or overwritten and not yet released), so the working invariant `InvC` carries those as credits; every step of
`retain`, `release` and the stores moves credits and keeps one balance equation. -/
namespace BlochVerif.Life
open BlochVerif.Gc (Fld Prim)

/-- 1 if `v` points to `x`: the unit of every balance equation -/
def ind (x : Nat) (v : Option Nat) : Nat := if v = some x then 1 else 0

/-- references to `x` held by the fields of one object (a destroyed object holds none) -/
def objRefs (x : Nat) (o : LObj) : Nat := if o.dead then 0 else ind x o.a + ind x o.b

/-- all strong references to `x`: slots and fields of objects that are still alive -/
def refs (s : St) (x : Nat) : Nat := (s.slots.map (ind x)).sum + (s.heap.map (objRefs x)).sum

/-- number of objects whose destructor has not run -/
def liveCount (s : St) : Nat := (s.heap.map (fun o => if o.dead then 0 else 1)).sum

theorem ind_none (y : Nat) : ind y none = 0 := rfl

theorem ind_self (x : Nat) : ind x (some x) = 1 := by simp [ind]

theorem ind_ne {x z : Nat} (h : z ≠ x) : ind z (some x) = 0 := by
  simp [ind, Ne.symm h]

theorem objRefs_rc (x : Nat) (o : LObj) (r : Nat) : objRefs x { o with rc := r } = objRefs x o := rfl

theorem put_rc (o : LObj) (f : Fld) (v : Option Nat) : (o.put f v).rc = o.rc := by cases f <;> rfl
theorem put_dead (o : LObj) (f : Fld) (v : Option Nat) : (o.put f v).dead = o.dead := by cases f <;> rfl

theorem get_rc (o : LObj) (f : Fld) (r : Nat) : ({ o with rc := r } : LObj).get f = o.get f := by cases f <;> rfl

theorem objRefs_put (y : Nat) (o : LObj) (f : Fld) (v : Option Nat) (hd : o.dead = false) :
    objRefs y (o.put f v) + ind y (o.get f) = objRefs y o + ind y v := by
  cases f <;> simp [objRefs, LObj.put, LObj.get, hd] <;> omega

theorem sum_map_set {α : Type} (l : List α) (f : α → Nat) (i : Nat) (v : α) (hi : i < l.length) :
    ((l.set i v).map f).sum + f l[i] = (l.map f).sum + f v := by
  induction l generalizing i with
  | nil => simp at hi
  | cons a rest ih =>
    cases i with
    | zero => simp; omega
    | succ j =>
      have := ih j (by simpa using hi)
      simp only [List.set_cons_succ, List.map_cons, List.sum_cons, List.getElem_cons_succ]
      omega

theorem getSlot_of_lt (s : St) (d : Nat) (hd : d < s.slots.length) : getSlot s d = s.slots[d] := by
  simp [getSlot, List.getElem?_eq_getElem hd]

theorem getSlot_setSlotRaw (s : St) (d d' : Nat) (v : Option Nat) (hd : d < s.slots.length) :
    getSlot (setSlotRaw s d v) d' = if d' = d then v else getSlot s d' := by
  unfold getSlot setSlotRaw
  by_cases h : d' = d
  · subst h; simp [List.getElem?_set_self hd]
  · simp only [h, if_false]
    rw [List.getElem?_set_ne (Ne.symm h)]

theorem refs_setSlotRaw (s : St) (d : Nat) (v : Option Nat) (hd : d < s.slots.length) (x : Nat) :
    refs (setSlotRaw s d v) x + ind x (getSlot s d) = refs s x + ind x v := by
  have h := sum_map_set s.slots (ind x) d v hd
  simp only [refs, setSlotRaw, getSlot, List.getElem?_eq_getElem hd, Option.join_some]
  omega

theorem refs_setHeap {s : St} {i : Nat} {o : LObj} (hi : s.heap[i]? = some o) (o' : LObj) (x : Nat) :
    refs { s with heap := s.heap.set i o' } x + objRefs x o = refs s x + objRefs x o' := by
  obtain ⟨hl, rfl⟩ := List.getElem?_eq_some_iff.mp hi
  have h := sum_map_set s.heap (objRefs x) i o' hl
  simp only [refs]
  omega

theorem refs_append (s : St) (o : LObj) (x : Nat) :
    refs { s with heap := s.heap ++ [o] } x = refs s x + objRefs x o := by
  simp only [refs, List.map_append, List.sum_append_nat, List.map_cons, List.map_nil, List.sum_cons, List.sum_nil]
  omega

theorem refs_out (s : St) (l : List String) (x : Nat) : refs { s with out := l } x = refs s x := rfl

theorem getSlot_heap (s : St) (h : List LObj) (d : Nat) : getSlot { s with heap := h } d = getSlot s d := rfl

theorem liveCount_setHeap {s : St} {i : Nat} {o : LObj} (hi : s.heap[i]? = some o) (o' : LObj) :
    liveCount { s with heap := s.heap.set i o' } + (if o.dead then 0 else 1) =
      liveCount s + (if o'.dead then 0 else 1) := by
  obtain ⟨hl, rfl⟩ := List.getElem?_eq_some_iff.mp hi
  exact sum_map_set s.heap (fun o => if o.dead then 0 else 1) i o' hl

theorem liveCount_le_length (s : St) : liveCount s ≤ s.heap.length := by
  unfold liveCount
  generalize s.heap = l
  induction l with
  | nil => simp
  | cons a rest ih =>
    simp only [List.map_cons, List.sum_cons, List.length_cons]
    split <;> omega

theorem le_refs_of_slot {s : St} {d y : Nat} (h : getSlot s d = some y) : 1 ≤ refs s y := by
  have hm : some y ∈ s.slots := List.mem_of_getElem? (Option.join_eq_some_iff.mp h)
  have : 0 < (s.slots.map (ind y)).sum :=
    List.sum_pos_iff_exists_pos_nat.mpr ⟨_, List.mem_map.mpr ⟨_, hm, rfl⟩, by simp [ind]⟩
  unfold refs; omega

theorem le_refs_of_field {s : St} {x y : Nat} {o : LObj} (ho : s.heap[x]? = some o) (hd : o.dead = false) (f : Fld)
    (h : o.get f = some y) : 1 ≤ refs s y := by
  have : 0 < (s.heap.map (objRefs y)).sum :=
    List.sum_pos_iff_exists_pos_nat.mpr ⟨_, List.mem_map.mpr ⟨o, List.mem_of_getElem? ho, rfl⟩, by
      cases f <;> simp only [LObj.get] at h <;> simp [objRefs, hd, h, ind] <;> omega⟩
  unfold refs; omega

/-- the stored count of a live object, 0 at a destroyed or absent index: so the one equation `InvC.bal`, over all
indices, also says that nothing refers to those -/
def cnt (h : List LObj) (x : Nat) : Nat :=
  match h[x]? with
  | some o => if o.dead then 0 else o.rc
  | none => 0

theorem cnt_some {h : List LObj} {x : Nat} {o : LObj} (ho : h[x]? = some o) :
    cnt h x = if o.dead then 0 else o.rc := by
  unfold cnt; rw [ho]

theorem cnt_none {h : List LObj} {x : Nat} (ho : h[x]? = none) : cnt h x = 0 := by
  unfold cnt; rw [ho]

theorem cnt_set {h : List LObj} {x : Nat} (hx : x < h.length) (o' : LObj) (y : Nat) :
    cnt (h.set x o') y = if y = x then (if o'.dead then 0 else o'.rc) else cnt h y := by
  unfold cnt
  rw [List.getElem?_set]
  by_cases hyx : y = x
  · subst hyx; simp [hx]
  · simp [hyx, Ne.symm hyx]

theorem cnt_append (h : List LObj) (o : LObj) (y : Nat) :
    cnt (h ++ [o]) y = if y = h.length then (if o.dead then 0 else o.rc) else cnt h y := by
  unfold cnt
  rcases Nat.lt_trichotomy y h.length with hlt | heq | hgt
  · rw [List.getElem?_append_left hlt]; simp [Nat.ne_of_lt hlt]
  · subst heq; simp
  · rw [List.getElem?_eq_none (by simp; omega), List.getElem?_eq_none (by omega)]; simp [Nat.ne_of_gt hgt]

/-- a destroyed object has released its fields; a live one has a positive count: an object is destroyed the moment its
count reaches 0 -/
def LObj.ok (o : LObj) : Prop := if o.dead then o.a = none ∧ o.b = none else 1 ≤ o.rc

theorem LObj.ok_live {o : LObj} (hd : o.dead = false) : o.ok ↔ 1 ≤ o.rc := by
  unfold LObj.ok; rw [hd]; exact Iff.rfl

theorem LObj.ok_dead {o : LObj} (hd : o.dead = true) : o.ok ↔ o.a = none ∧ o.b = none := by
  unfold LObj.ok; rw [if_pos hd]

/-- the bookkeeping invariant with credits: the count of every object is the number of references stored in slots and
live fields plus `c x`, the references to `x` that have been added to its count (or not yet taken off it) but are not
stored anywhere at this moment; destroyed and absent objects have neither -/
structure InvC (s : St) (c : Nat → Nat) : Prop where
  bal : ∀ x, refs s x + c x = cnt s.heap x
  obj : ∀ o ∈ s.heap, o.ok

/-- counts are exact: nothing is credited -/
def Inv (s : St) : Prop := InvC s (fun _ => 0)

theorem InvC.live {s : St} {c : Nat → Nat} (h : InvC s c) {x : Nat} {o : LObj} (ho : s.heap[x]? = some o)
    (hd : o.dead = false) : o.rc = refs s x + c x ∧ 1 ≤ o.rc := by
  have h1 := h.bal x
  simp only [cnt_some ho, hd, Bool.false_eq_true, if_false] at h1
  exact ⟨h1.symm, (LObj.ok_live hd).mp (h.obj o (List.mem_of_getElem? ho))⟩

theorem InvC.dead {s : St} {c : Nat → Nat} (h : InvC s c) {x : Nat} {o : LObj} (ho : s.heap[x]? = some o)
    (hd : o.dead = true) : o.a = none ∧ o.b = none ∧ refs s x = 0 ∧ c x = 0 := by
  have h1 := h.bal x
  have h2 := (LObj.ok_dead hd).mp (h.obj o (List.mem_of_getElem? ho))
  rw [cnt_some ho, if_pos hd] at h1
  exact ⟨h2.1, h2.2, by omega, by omega⟩

/-- whatever is referenced, from a slot, a field or in flight, exists and has not been destroyed -/
theorem InvC.target_live {s : St} {c : Nat → Nat} (h : InvC s c) {y : Nat} (hy : 1 ≤ refs s y + c y) :
    ∃ o, s.heap[y]? = some o ∧ o.dead = false := by
  cases ho : s.heap[y]? with
  | none => have h1 := h.bal y; rw [cnt_none ho] at h1; omega
  | some o =>
    refine ⟨o, rfl, ?_⟩
    cases hd : o.dead with
    | false => rfl
    | true => have := h.dead ho hd; omega

/-- replacing one object: the invariant survives when the books balance at that object and the credits elsewhere only
follow its references -/
theorem InvC.setHeap {s : St} {c c' : Nat → Nat} {x : Nat} {o o' : LObj} (h : InvC s c) (ho : s.heap[x]? = some o)
    (hok : o'.ok)
    (hx : objRefs x o' + c' x + (if o.dead then 0 else o.rc) = objRefs x o + c x + (if o'.dead then 0 else o'.rc))
    (hne : ∀ y, y ≠ x → objRefs y o' + c' y = objRefs y o + c y) :
    InvC { s with heap := s.heap.set x o' } c' := by
  have hl : x < s.heap.length := (List.getElem?_eq_some_iff.mp ho).1
  refine ⟨fun y => ?_, fun p hp => ?_⟩
  · have h1 := h.bal y
    have h2 := refs_setHeap ho o' y
    simp only [cnt_set hl]
    by_cases hyx : y = x
    · subst hyx
      rw [cnt_some ho] at h1
      simp only [if_true]
      omega
    · have := hne y hyx
      simp only [hyx, if_false]
      omega
  · rcases List.mem_or_eq_of_mem_set hp with hp | rfl
    · exact h.obj p hp
    · exact hok

theorem InvC.out {s : St} {c : Nat → Nat} (h : InvC s c) (l : List String) : InvC { s with out := l } c := ⟨h.bal, h.obj⟩

theorem retain_some (s : St) (x : Nat) (o : LObj) (h : s.heap[x]? = some o) :
    retain s (some x) = { s with heap := s.heap.set x { o with rc := o.rc + 1 } } := by simp [retain, h]

theorem retain_miss (s : St) (x : Nat) (h : s.heap[x]? = none) : retain s (some x) = s := by simp [retain, h]

/-- `retain` in closed form: one count goes up and nothing else moves (`List.modify` leaves the list alone at an index
beyond its end, as `retain` does) -/
theorem retain_eq (s : St) (v : Option Nat) :
    retain s v = { s with heap := v.elim s.heap fun x => s.heap.modify x fun o => { o with rc := o.rc + 1 } } := by
  cases v with
  | none => rfl
  | some x =>
    simp only [retain, Option.elim, List.modify_eq_set]
    cases h : s.heap[x]? with
    | none => simp [List.set_eq_of_length_le (List.getElem?_eq_none_iff.mp h)]
    | some o => rfl

theorem retain_slots (s : St) (v : Option Nat) : (retain s v).slots = s.slots := by rw [retain_eq]

theorem retain_length (s : St) (v : Option Nat) : (retain s v).heap.length = s.heap.length := by
  rw [retain_eq]; cases v <;> simp

theorem retain_get (s : St) (v : Option Nat) (x : Nat) :
    (retain s v).heap[x]? = (s.heap[x]?).map fun o => { o with rc := o.rc + ind x v } := by
  rw [retain_eq]
  cases v with
  | none => simp [ind_none]
  | some w =>
    simp only [Option.elim, List.getElem?_modify, ind, Option.some.injEq, Option.map_eq_map]
    by_cases hwx : w = x <;> cases s.heap[x]? <;> simp [hwx]

theorem getSlot_retain (s : St) (v : Option Nat) (d : Nat) : getSlot (retain s v) d = getSlot s d := by
  unfold getSlot; rw [retain_slots]

/-- `retain`: the count goes up by one and the reference becomes a credit -/
theorem retain_spec {s : St} {c : Nat → Nat} (hinv : InvC s c) (v : Option Nat)
    (hv : ∀ x, v = some x → 1 ≤ refs s x + c x) : InvC (retain s v) (fun y => c y + ind y v) := by
  cases v with
  | none => exact hinv
  | some x =>
    obtain ⟨o, ho, hod⟩ := hinv.target_live (hv x rfl)
    rw [retain_some s x o ho]
    refine hinv.setHeap ho ?_ ?_ (fun y hy => ?_)
    · exact (LObj.ok_live (o := { o with rc := o.rc + 1 }) hod).mpr (Nat.le_add_left 1 o.rc)
    · rw [objRefs_rc, hod, ind_self]; simp; omega
    · rw [objRefs_rc, ind_ne hy]; rfl

/-- the object after its destructor ran: no count, no fields -/
def kill (o : LObj) : LObj := { o with rc := 0, dead := true, a := none, b := none }

/-- the state right after the destructor of `x` ran and its fields were detached (`s1` in `release`) -/
def killSt (s : St) (x : Nat) (o : LObj) : St :=
  { s with heap := s.heap.set x (kill o), out := s.out ++ [s!"d{o.id}"] }

def decSt (s : St) (x : Nat) (o : LObj) : St := { s with heap := s.heap.set x { o with rc := o.rc - 1 } }

theorem release_none (fuel : Nat) (s : St) : release fuel s none = s := by cases fuel <;> rfl

theorem release_zero (s : St) (v : Option Nat) : release 0 s v = s := by cases v <;> rfl

theorem release_miss (fuel : Nat) (s : St) (x : Nat) (h : s.heap[x]? = none) : release (fuel + 1) s (some x) = s := by
  rw [release]; simp only [h]

theorem release_dead (fuel : Nat) (s : St) (x : Nat) (o : LObj) (h : s.heap[x]? = some o) (hd : o.dead = true) :
    release (fuel + 1) s (some x) = s := by
  rw [release]; simp only [h]; rw [if_pos hd]

theorem release_succ (fuel : Nat) (s : St) (x : Nat) (o : LObj) (ho : s.heap[x]? = some o) (hd : o.dead = false) :
    release (fuel + 1) s (some x) =
      if o.rc > 1 then decSt s x o
      else release fuel (release fuel (killSt s x o) o.a) o.b := by
  rw [release]
  simp only [ho]
  rw [if_neg (by rw [hd]; exact Bool.false_ne_true)]
  rfl

theorem liveCount_decSt {s : St} {x : Nat} {o : LObj} (ho : s.heap[x]? = some o) :
    liveCount (decSt s x o) = liveCount s := by
  have := liveCount_setHeap ho { o with rc := o.rc - 1 }
  exact Nat.add_right_cancel this

theorem liveCount_killSt {s : St} {x : Nat} {o : LObj} (ho : s.heap[x]? = some o) (hd : o.dead = false) :
    liveCount (killSt s x o) + 1 = liveCount s := by
  have := liveCount_setHeap ho (kill o)
  simp [hd, kill] at this
  exact this

/-- not the last reference: the credit pays for the decrement -/
theorem dec_spec {s : St} {c : Nat → Nat} {x : Nat} {o : LObj}
    (hinv : InvC s (fun y => c y + ind y (some x))) (ho : s.heap[x]? = some o) (hd : o.dead = false) (hgt : o.rc > 1) :
    InvC (decSt s x o) c := by
  refine hinv.setHeap ho ?_ ?_ (fun y hy => ?_)
  · exact (LObj.ok_live (o := { o with rc := o.rc - 1 }) hd).mpr (Nat.le_sub_of_add_le hgt)
  · rw [objRefs_rc, hd, ind_self]; simp; omega
  · rw [objRefs_rc, ind_ne hy]; rfl

/-- the last reference goes: the object dies, its fields turn into credits (`b` inside, `a` outside: `release_spec`
peels them in the order the fields are released, `a` then `b`) -/
theorem kill_spec {s : St} {c : Nat → Nat} {x : Nat} {o : LObj}
    (hinv : InvC s (fun y => c y + ind y (some x))) (ho : s.heap[x]? = some o) (hd : o.dead = false)
    (hrc : o.rc = 1) : InvC (killSt s x o) (fun y => (c y + ind y o.b) + ind y o.a) := by
  refine (hinv.setHeap ho (o' := kill o) ?_ ?_ (fun y hy => ?_)).out _
  · exact (LObj.ok_dead rfl).mpr ⟨rfl, rfl⟩
  · simp only [objRefs, hd, kill, ind_self, hrc]; simp; omega
  · simp only [objRefs, hd, kill, ind_ne hy]; simp; omega

/-- storing a credited reference into a slot: the credit is used up, the slot's old content becomes one -/
theorem setSlot_spec {s : St} {c : Nat → Nat} {d : Nat} {v : Option Nat}
    (hinv : InvC s (fun y => c y + ind y v)) (hd : d < s.slots.length) :
    InvC (setSlotRaw s d v) (fun y => c y + ind y (getSlot s d)) := by
  refine ⟨fun y => ?_, hinv.obj⟩
  have h1 := hinv.bal y
  have h2 := refs_setSlotRaw s d v hd y
  show refs (setSlotRaw s d v) y + (c y + ind y (getSlot s d)) = cnt s.heap y
  omega

/-- storing a credited reference into a field of a live object -/
theorem setField_spec {s : St} {c : Nat → Nat} {x : Nat} {o : LObj} (f : Fld) {v : Option Nat}
    (hinv : InvC s (fun y => c y + ind y v)) (ho : s.heap[x]? = some o) (hd : o.dead = false) :
    InvC { s with heap := s.heap.set x (o.put f v) } (fun y => c y + ind y (o.get f)) := by
  refine hinv.setHeap ho ?_ ?_ (fun y _ => ?_)
  · exact (LObj.ok_live (by rw [put_dead]; exact hd)).mpr (by rw [put_rc]; exact (hinv.live ho hd).2)
  · have := objRefs_put x o f v hd
    rw [put_rc, put_dead]; omega
  · have := objRefs_put y o f v hd
    omega

/-- allocation: the fresh object carries one credit, the reference the slot is about to take -/
theorem alloc_spec {s : St} {c : Nat → Nat} (hinv : InvC s c) (id : Int) :
    InvC { s with heap := s.heap ++ [{ id := id, rc := 1 }] } (fun y => c y + ind y (some s.heap.length)) := by
  refine ⟨fun y => ?_, fun o ho => ?_⟩
  · have h1 := hinv.bal y
    have h2 : objRefs y { id := id, rc := 1 } = 0 := rfl
    simp only [refs_append, cnt_append, h2]
    by_cases hy : y = s.heap.length
    · subst hy
      rw [cnt_none (List.getElem?_eq_none (Nat.le_refl _))] at h1
      simp only [ind_self]; simp; omega
    · simp only [ind_ne hy, hy, if_false]; omega
  · rcases List.mem_append.mp ho with ho | ho
    · exact hinv.obj o ho
    · rw [List.mem_singleton.mp ho]; exact (LObj.ok_live rfl).mpr (Nat.le_refl 1)

/-- induction on a run of `release`, for a relation `P` between the state before and the state after: `P` is reflexive
(nothing is released), holds across a decrement, holds from `s` once it holds from `killSt s x o`, and is transitive (a kill
releases the two fields one after the other) -/
theorem release_cases (P : St → St → Prop) (hrefl : ∀ s, P s s)
    (hdec : ∀ s x o, s.heap[x]? = some o → o.dead = false → o.rc > 1 → P s (decSt s x o))
    (hkill : ∀ s x o t, s.heap[x]? = some o → o.dead = false → P (killSt s x o) t → P s t)
    (htrans : ∀ s t u, P s t → P t u → P s u) :
    ∀ fuel s v, P s (release fuel s v) := by
  intro fuel s v
  fun_induction release fuel s v with
  -- in the order of the text of `release`: no reference, no fuel, absent index, dead object; then decrement; then kill
  | case1 | case2 | case3 | case4 => exact hrefl _
  | case5 fuel s x o ho hd hgt => exact hdec s x o ho (by simpa using hd) hgt
  | case6 fuel s x o ho hd _ _ _ ih1 ih2 => exact hkill s x o _ ho (by simpa using hd) (htrans _ _ _ ih1 ih2)

theorem release_slots (fuel : Nat) (s : St) (v : Option Nat) : (release fuel s v).slots = s.slots :=
  release_cases (fun s t => t.slots = s.slots) (fun _ => rfl) (fun _ _ _ _ _ _ => rfl) (fun _ _ _ _ _ _ h => h)
    (fun _ _ _ h1 h2 => h2.trans h1) fuel s v

theorem release_length (fuel : Nat) (s : St) (v : Option Nat) : (release fuel s v).heap.length = s.heap.length :=
  release_cases (fun s t => t.heap.length = s.heap.length) (fun _ => rfl) (fun _ _ _ _ _ _ => List.length_set ..)
    (fun _ _ _ _ _ _ h => h.trans (List.length_set ..)) (fun _ _ _ h1 h2 => h2.trans h1) fuel s v

theorem liveCount_release_le (fuel : Nat) (s : St) (v : Option Nat) : liveCount (release fuel s v) ≤ liveCount s :=
  release_cases (fun s t => liveCount t ≤ liveCount s) (fun _ => Nat.le_refl _)
    (fun _ _ _ ho _ _ => Nat.le_of_eq (liveCount_decSt ho))
    (fun _ _ _ _ ho hd h => by have := liveCount_killSt ho hd; omega)
    (fun _ _ _ h1 h2 => Nat.le_trans h2 h1) fuel s v

/-- `release`: consumes one credit of the released reference; when the count reaches zero the object dies, its
fields become credits and are released in turn.  Every level of the cascade kills a different live object, so as many
levels as there are live objects suffice. -/
theorem release_spec : ∀ (fuel : Nat) (s : St) (c : Nat → Nat) (v : Option Nat),
    InvC s (fun y => c y + ind y v) → liveCount s ≤ fuel → InvC (release fuel s v) c := by
  intro fuel
  induction fuel with
  | zero =>
    intro s c v hinv hf
    cases v with
    | none => exact hinv
    | some x =>
      -- the credited object is alive, so `1 ≤ liveCount s` (killing it would take one off: `liveCount_killSt`) and the
      -- fuel cannot be 0
      obtain ⟨o, ho, hd⟩ := hinv.target_live (y := x) (by simp only [ind_self]; omega)
      have := liveCount_killSt ho hd
      omega
  | succ fuel ih =>
    intro s c v hinv hf
    cases v with
    | none => exact hinv
    | some x =>
      obtain ⟨o, ho, hd⟩ := hinv.target_live (y := x) (by simp only [ind_self]; omega)
      have hrc := (hinv.live ho hd).2
      rw [release_succ fuel s x o ho hd]
      by_cases hgt : o.rc > 1
      · rw [if_pos hgt]; exact dec_spec hinv ho hd hgt
      · rw [if_neg hgt]
        have hl1 := liveCount_killSt ho hd
        have hl2 := liveCount_release_le fuel (killSt s x o) o.a
        exact ih _ c o.b (ih _ _ o.a (kill_spec hinv ho hd (by omega)) (by omega)) (by omega)

/-- `release` as the primitives call it: the heap size is fuel enough -/
theorem release_len_spec {s : St} {c : Nat → Nat} {v : Option Nat} (hinv : InvC s (fun y => c y + ind y v)) :
    InvC (release s.heap.length s v) c :=
  release_spec _ _ _ _ hinv (liveCount_le_length s)

theorem assignSlot_inv {s : St} {d : Nat} (v : Option Nat) (hinv : Inv s) (hd : d < s.slots.length)
    (hv : ∀ x, v = some x → 1 ≤ refs s x) : Inv (assignSlot s d v) := by
  have h1 := retain_spec hinv v (fun x hx => Nat.le_trans (hv x hx) (Nat.le_add_right _ _))
  have h2 := setSlot_spec h1 (d := d) (by rw [retain_slots]; exact hd)
  rw [getSlot_retain] at h2
  exact release_len_spec h2

theorem assignSlot_slots_length (s : St) (d : Nat) (v : Option Nat) :
    (assignSlot s d v).slots.length = s.slots.length := by
  simp [assignSlot, release_slots, setSlotRaw, retain_slots]

/-- slot indices a primitive writes stay inside the frame.  Needed for `Inv`: `List.set` beyond the end does nothing, so
the reference `assignSlot` has retained by then would be counted and stored nowhere -/
def Prim.wf (n : Nat) : Prim → Prop
  | .new d _ => d < n
  | .load _ d _ => d < n
  | .mov d _ => d < n
  | .clr d => d < n
  | _ => True

instance (n : Nat) : DecidablePred (Prim.wf n) := fun p => by cases p <;> unfold Prim.wf <;> infer_instance

theorem prim_inv (s : St) (p : Prim) (hinv : Inv s) (hp : Prim.wf s.slots.length p) : Inv (prim s p) := by
  cases p with
  | new d id =>
    -- `prim s (.new d id)` unfolds to exactly this nesting: allocate, store in the slot, release the slot's old content
    exact release_len_spec (setSlot_spec (alloc_spec hinv id) (d := d) hp)
  | set f d src =>
    simp only [prim]
    cases hx : getSlot s d with
    | none => exact hinv
    | some x =>
      obtain ⟨o, ho, hod⟩ := hinv.target_live (Nat.le_add_right_of_le (le_refs_of_slot hx))
      have h1 := retain_spec hinv (getSlot s src) (fun y hy => Nat.le_add_right_of_le (le_refs_of_slot hy))
      -- `prim` reads `x` again after `retain`: the value stored may be `x` itself, whose count `retain` has just raised
      -- (`retain_get`); the fields are still those of the first read (`get_rc`)
      have ho1 := retain_get s (getSlot s src) x
      rw [ho] at ho1
      simp only [ho, ho1, Option.map_some]
      have h2 := setField_spec f h1 ho1 hod
      rw [get_rc] at h2
      exact release_len_spec h2
  | load f d src =>
    simp only [prim]
    cases hx : getSlot s src with
    | none => exact hinv
    | some x =>
      obtain ⟨o, ho, hod⟩ := hinv.target_live (Nat.le_add_right_of_le (le_refs_of_slot hx))
      simp only [ho]
      exact assignSlot_inv _ hinv hp (fun y hy => le_refs_of_field ho hod f hy)
  | mov d src => exact assignSlot_inv _ hinv hp (fun y hy => le_refs_of_slot hy)
  | clr d => exact assignSlot_inv none hinv hp (fun x h => by cases h)
  | «show» d | showA d | showNN d =>
    simp only [prim]
    repeat' split
    all_goals exact hinv.out _

theorem prim_slots_length (s : St) (p : Prim) : (prim s p).slots.length = s.slots.length := by
  cases p <;> simp only [prim] <;> repeat' split
  all_goals simp [assignSlot_slots_length, release_slots, setSlotRaw, retain_slots]

theorem init_inv : Inv initSt :=
  ⟨fun x => by simp [refs, initSt, cnt, ind], fun o ho => by simp [initSt] at ho⟩

theorem exec_inv : ∀ (ps : List Prim) (s : St), Inv s → (∀ p ∈ ps, Prim.wf s.slots.length p) → Inv (exec ps s)
  | [], s, h, _ => h
  | p :: ps, s, h, hw =>
    exec_inv ps (prim s p) (prim_inv s p h (hw p List.mem_cons_self))
      (fun q hq => by rw [prim_slots_length]; exact hw q (List.mem_cons_of_mem _ hq))

/-- the slot an operation writes exists in the 9-slot frame of `initSt` (the heap generator uses variables 0..3; slots 4..8
are the temporaries `Gc.compile` introduces) -/
def Op.wf : Gc.Op → Prop
  | .new v _ => v < 9
  | .geta _ w => w < 9
  | .getb _ w => w < 9
  | .null v => v < 9
  | .link v _ _ => v < 9
  | _ => True

theorem churn_wf : ∀ n, ∀ p ∈ Gc.churnPrims n, Prim.wf 9 p
  | 0 => nofun
  | n + 1 => List.forall_mem_append.mpr ⟨by decide, churn_wf n⟩

theorem walk_wf : ∀ n, ∀ p ∈ Gc.walkPrims n, Prim.wf 9 p
  | 0 => nofun
  | n + 1 => List.forall_mem_append.mpr ⟨by decide, walk_wf n⟩

theorem compile_wf (op : Gc.Op) (h : Op.wf op) : ∀ p ∈ Gc.compile op, Prim.wf 9 p := by
  intro p hp
  cases op with
  | churn n => exact churn_wf n p hp
  | link v id1 id2 =>
    simp only [Gc.compile, List.mem_append, List.mem_cons, List.not_mem_nil, or_false] at hp
    rcases hp with (rfl | hp) | rfl | rfl | rfl | rfl | rfl | rfl
    · exact (by decide : 5 < 9)
    · exact churn_wf 2 p hp
    · exact (by decide : 6 < 9)
    · trivial
    · trivial
    · exact h
    · decide
    · decide
  | walk v k =>
    simp only [Gc.compile, List.mem_append, List.mem_cons, List.not_mem_nil, or_false] at hp
    rcases hp with (rfl | hp) | rfl
    · exact (by decide : 4 < 9)
    · exact walk_wf k p hp
    · decide
  | _ => cases List.mem_singleton.mp hp; exact h

theorem runOps_inv (ops : List Gc.Op) (h : ∀ op ∈ ops, Op.wf op) : Inv (runOps ops) := by
  refine exec_inv _ _ init_inv fun p hp => ?_
  obtain ⟨op, hop, hpo⟩ := List.mem_flatMap.mp hp
  exact compile_wf op (h op hop) p hpo

end BlochVerif.Life
