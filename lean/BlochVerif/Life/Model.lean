import BlochVerif.Gc.Model
/-!
# Object lifetime under reference counting (C08 destructor clause, C11)

The evaluator holds objects in `std::shared_ptr`s: an object is destroyed — its destructor runs, then its fields
are released in field order — at the moment its last strong reference disappears; references that only form a
cycle keep each other alive (the cycle collector reclaims those without running destructors).  This file is that
discipline over the same register machine as `Gc.Model` (same primitives, same programs): every object carries
its reference count, `release` decrements and cascades, `retain` increments.  Destructor lines are `d<id>`.
-/
namespace BlochVerif.Life
open BlochVerif.Gc (Fld Prim Op compile)

structure LObj where
  id : Int
  a : Option Nat := none
  b : Option Nat := none
  /-- strong references: slots and fields of objects that are still alive -/
  rc : Nat := 0
  /-- the destructor has run and the fields have been released -/
  dead : Bool := false
deriving Repr, DecidableEq, Inhabited

structure St where
  heap : List LObj := []
  slots : List (Option Nat) := []
  out : List String := []
deriving Repr

def LObj.get (o : LObj) : Fld → Option Nat
  | .a => o.a
  | .b => o.b

def LObj.put (o : LObj) (f : Fld) (v : Option Nat) : LObj :=
  match f with
  | .a => { o with a := v }
  | .b => { o with b := v }

def getSlot (s : St) (d : Nat) : Option Nat := (s.slots[d]?).join

def retain (s : St) : Option Nat → St
  | none => s
  | some x =>
    match s.heap[x]? with
    | some o => { s with heap := s.heap.set x { o with rc := o.rc + 1 } }
    | none => s

/-- drop one reference; at zero run the destructor (`d<id>`) and release the fields in field order.
`fuel` bounds the cascade depth (the heap size suffices: every level kills a different object). -/
def release : Nat → St → Option Nat → St
  | _, s, none => s
  | 0, s, some _ => s
  | fuel + 1, s, some x =>
    match s.heap[x]? with
    | none => s
    | some o =>
      if o.dead then s
      else if o.rc > 1 then { s with heap := s.heap.set x { o with rc := o.rc - 1 } }
      else
        -- last reference: destructor body first, then the fields go, a before b
        let s1 : St := { s with heap := s.heap.set x { o with rc := 0, dead := true, a := none, b := none },
                                 out := s.out ++ [s!"d{o.id}"] }
        let s2 := release fuel s1 o.a
        release fuel s2 o.b

def setSlotRaw (s : St) (d : Nat) (v : Option Nat) : St := { s with slots := s.slots.set d v }

/-- `slot d := v` with shared_ptr assignment semantics: the new value is retained first, the old one released after -/
def assignSlot (s : St) (d : Nat) (v : Option Nat) : St :=
  let old := getSlot s d
  let s1 := retain s v
  let s2 := setSlotRaw s1 d v
  release s2.heap.length s2 old

def idStr (h : List LObj) (x : Nat) : String :=
  match h[x]? with
  | some o => toString o.id
  | none => "?"

def prim (s : St) : Prim → St
  | .new d id =>
    -- the fresh object is born with the reference the slot is about to hold
    let x := s.heap.length
    let old := getSlot s d
    let s1 : St := { s with heap := s.heap ++ [{ id := id, rc := 1 }] }
    let s2 := setSlotRaw s1 d (some x)
    release s2.heap.length s2 old
  | .set f d src =>
    match getSlot s d with
    | some x =>
      match s.heap[x]? with
      | some o =>
        let v := getSlot s src
        let old := o.get f
        let s1 := retain s v
        match s1.heap[x]? with
        | some o1 =>
          let s2 : St := { s1 with heap := s1.heap.set x (o1.put f v) }
          release s2.heap.length s2 old
        | none => s1
      | none => s
    | none => s
  | .load f d src =>
    match getSlot s src with
    | some x =>
      match s.heap[x]? with
      | some o => assignSlot s d (o.get f)
      | none => s
    | none => s
  | .mov d src => assignSlot s d (getSlot s src)
  | .clr d => assignSlot s d none
  | .show d =>
    match getSlot s d with
    | some x => { s with out := s.out ++ [idStr s.heap x] }
    | none => { s with out := s.out ++ ["null"] }
  | .showA d =>
    match getSlot s d with
    | some x =>
      match s.heap[x]? with
      | some o =>
        match o.a with
        | some y => { s with out := s.out ++ [idStr s.heap y] }
        | none => { s with out := s.out ++ ["a-null"] }
      | none => { s with out := s.out ++ ["?"] }
    | none => { s with out := s.out ++ ["null"] }
  | .showNN d =>
    match getSlot s d with
    | some x => { s with out := s.out ++ [idStr s.heap x] }
    | none => s

def exec : List Prim → St → St
  | [], s => s
  | p :: ps, s => exec ps (prim s p)

def initSt : St := { slots := List.replicate 9 none }

/-- the program's output up to the end of `main`; the variables of `main` then die in reverse order of declaration,
and `finalDestructors` lists the lines that produces -/
def runOps (ops : List Op) : St := exec (ops.flatMap compile) initSt

/-- destructor lines produced when the four program variables are released at the end of `main`: a scope lets its
values die in reverse order of declaration (slots are declared in order 0, 1, 2, 3) -/
def finalDestructors (s : St) : List String :=
  let s' := [3, 2, 1, 0].foldl (fun st d => assignSlot st d none) { s with out := [] }
  s'.out

end BlochVerif.Life
