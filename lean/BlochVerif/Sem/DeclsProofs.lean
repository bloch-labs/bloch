import BlochVerif.Sem.Decls
/-!
# The base-chain walk's fuel is exact

`chainOK cs (cs.length + 1) n` is how `accept` decides "the base chain of `n` ends at `Object`".  Here: more fuel never
changes a positive answer (`chainOK_mono`), and a positive answer with any fuel is already a positive answer with
`cs.length + 1`.  The argument ranks a class by the least fuel with which its walk ends: along a walk the rank goes down by
one at every step, so the walk meets pairwise different declared classes (`chainOK_tight`).  So the verdict is "the chain
ends", not an artefact of the bound.
-/
namespace BlochVerif.Decls

theorem chainOK_succ {cs : List Cls} {k : Nat} {n : String} (h : chainOK cs (k + 1) n = true) :
    n = "Object" ∨ ∃ c, n ≠ "Object" ∧ cs.find? (fun c => c.name == n) = some c ∧ chainOK cs k c.baseName = true := by
  rw [chainOK] at h
  split at h
  · exact .inl ‹_›
  · split at h
    · cases h
    · exact .inr ⟨_, ‹_›, ‹_›, h⟩

theorem chainOK_step {cs : List Cls} {k : Nat} {n : String} {c : Cls} (hn : n ≠ "Object")
    (hf : cs.find? (fun c => c.name == n) = some c) : chainOK cs (k + 1) n = chainOK cs k c.baseName := by
  rw [chainOK, if_neg hn, hf]

theorem chainOK_object (cs : List Cls) (k : Nat) : chainOK cs (k + 1) "Object" = true := by simp [chainOK]

theorem chainOK_mono (cs : List Cls) : ∀ (k k' : Nat) (n : String), k ≤ k' → chainOK cs k n = true →
    chainOK cs k' n = true := by
  intro k
  induction k with
  | zero => intro _ _ _ h; cases h
  | succ k ih =>
    intro k' n hk h
    obtain ⟨k', rfl⟩ : ∃ j, k' = j + 1 := ⟨k' - 1, by omega⟩
    rcases chainOK_succ h with rfl | ⟨c, hn, hf, hc⟩
    · exact chainOK_object cs k'
    · rw [chainOK_step hn hf]; exact ih k' _ (by omega) hc

/-- Along a walk that ends with no fuel to spare, every class fails with the fuel with which the next one succeeds, so the
walk never meets a class twice.  `seen` are the classes met so far: `k` more are to come, and all are declared. -/
theorem chainOK_tight (cs : List Cls) : ∀ (k : Nat) (n : String) (seen : List String),
    chainOK cs (k + 1) n = true → chainOK cs k n = false → seen.Nodup →
    (∀ m ∈ seen, m ∈ cs.map (·.name) ∧ chainOK cs (k + 1) m = false) → seen.length + k ≤ cs.length := by
  intro k
  induction k with
  | zero =>
    intro n seen _ _ hnd hs
    simpa using List.Nodup.length_le_of_subset hnd fun m hm => (hs m hm).1
  | succ k ih =>
    intro n seen h h0 hnd hs
    rcases chainOK_succ h with rfl | ⟨c, hn, hf, hc⟩
    · rw [chainOK_object] at h0; cases h0
    · -- `n` joins `seen`: it is declared, it fails with `k + 1`, and it is new, since all of `seen` fails with `k + 2`
      have hs' : ∀ m ∈ n :: seen, m ∈ cs.map (·.name) ∧ chainOK cs (k + 1) m = false := by
        refine List.forall_mem_cons.mpr ⟨⟨?_, h0⟩, fun m hm => ⟨(hs m hm).1, ?_⟩⟩
        · exact List.mem_map.mpr ⟨c, List.mem_of_find?_eq_some hf, by simpa using List.find?_some hf⟩
        · exact Bool.eq_false_iff.mpr fun hk =>
            Bool.eq_false_iff.mp (hs m hm).2 (chainOK_mono cs _ _ m (Nat.le_succ _) hk)
      have hnew : n ∉ seen := fun hm => by rw [(hs n hm).2] at h; cases h
      rw [chainOK_step hn hf] at h0
      have := ih c.baseName (n :: seen) hc h0 (List.nodup_cons.mpr ⟨hnew, hnd⟩) hs'
      simp only [List.length_cons] at this
      omega

/-- **Fuel exactness.**  If the walk from `n` ends at `Object` with any amount of fuel, it does so with
`cs.length + 1`: `accept`'s bound never turns an acyclic chain into a rejected one. -/
theorem chainOK_fuel_exact (cs : List Cls) (k : Nat) (n : String) (h : chainOK cs k n = true) :
    chainOK cs (cs.length + 1) n = true := by
  -- the least fuel that suffices
  induction k with
  | zero => cases h
  | succ k ih =>
    cases h0 : chainOK cs k n with
    | true => exact ih h0
    | false =>
      have := chainOK_tight cs k n [] h h0 List.nodup_nil (fun _ hm => nomatch hm)
      exact chainOK_mono cs _ _ n (by simpa using this) h

end BlochVerif.Decls
