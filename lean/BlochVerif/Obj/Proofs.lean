import BlochVerif.Obj.Model
/-! Proofs about the class-runtime model.  `vtableWho_spec` is the specification of dispatch (the most-derived declaring
class at or above the dynamic one); the `whoChain_*` lemmas say that a chain of `super` calls does not depend on its
fuel, descends and stays among declaring classes; `bumpMade`/`addAt` are read pointwise for the per-class counters.
`PickInv` is the loop invariant of the overload scan over the costs seen so far, and `pick_spec` reads the three
outcomes of `pick` off it. -/
namespace BlochVerif.Obj

theorem findWho_eq_vtableWho (h : Hier) (i : Nat) : findWho h i = vtableWho h i := by
  induction i with
  | zero => rfl
  | succ i ih => simp [findWho, vtableWho, ih]

theorem ovr_zero (h : Hier) : h.ovr 0 = true := by simp [Hier.ovr]

theorem vtableWho_spec (h : Hier) (i : Nat) :
    vtableWho h i ≤ i ∧ h.ovr (vtableWho h i) = true ∧ ∀ j, vtableWho h i < j → j ≤ i → h.ovr j = false := by
  induction i with
  | zero => exact ⟨Nat.le_refl 0, ovr_zero h, fun j h1 h2 => absurd h2 (Nat.not_le_of_gt h1)⟩
  | succ i ih =>
    unfold vtableWho
    split
    · exact ⟨Nat.le_refl _, ‹_›, fun j h1 h2 => absurd h2 (Nat.not_le_of_gt h1)⟩
    · refine ⟨Nat.le_succ_of_le ih.1, ih.2.1, fun j h1 h2 => ?_⟩
      rcases Nat.eq_or_lt_of_le h2 with rfl | h2
      · simpa using ‹¬h.ovr (i + 1) = true›
      · exact ih.2.2 j h1 (Nat.le_of_lt_succ h2)

theorem vtableWho_le (h : Hier) (i : Nat) : vtableWho h i ≤ i := (vtableWho_spec h i).1

theorem vtableWho_ovr (h : Hier) (i : Nat) : h.ovr (vtableWho h i) = true := (vtableWho_spec h i).2.1

/-- `super.who()` goes strictly up -/
theorem findWho_lt_of_sup (h : Hier) {impl : Nat} (hs : h.sup impl = true) : findWho h (impl - 1) < impl := by
  have hpos : impl ≠ 0 := by intro h0; subst h0; simp [Hier.sup] at hs
  have := vtableWho_le h (impl - 1)
  rw [findWho_eq_vtableWho]; omega

theorem whoChain_fuel (h : Hier) : ∀ (fuel fuel' impl : Nat), impl < fuel → impl < fuel' →
    whoChain h fuel impl = whoChain h fuel' impl := by
  intro fuel
  induction fuel with
  | zero => intro _ _ h1; omega
  | succ f ih =>
    intro fuel' impl h1 h2
    cases fuel' with
    | zero => omega
    | succ f' =>
      simp only [whoChain]
      split
      · rename_i hs
        have := findWho_lt_of_sup h hs
        rw [ih f' _ (by omega) (by omega)]
      · rfl

theorem whoChain_desc (h : Hier) : ∀ (fuel impl : Nat),
    (whoChain h fuel impl).Pairwise (· > ·) ∧ ∀ x ∈ whoChain h fuel impl, x ≤ impl := by
  intro fuel
  induction fuel with
  | zero => intro impl; simp [whoChain]
  | succ f ih =>
    intro impl
    simp only [whoChain]
    split
    · rename_i hs
      have hlt := findWho_lt_of_sup h hs
      obtain ⟨hp, hb⟩ := ih (findWho h (impl - 1))
      have hall : ∀ x ∈ whoChain h f (findWho h (impl - 1)), x < impl := fun x hx => Nat.lt_of_le_of_lt (hb x hx) hlt
      exact ⟨List.Pairwise.cons hall hp, List.forall_mem_cons.mpr ⟨Nat.le_refl _, fun x hx => Nat.le_of_lt (hall x hx)⟩⟩
    · simp

theorem whoChain_all_ovr (h : Hier) : ∀ (fuel impl : Nat), h.ovr impl = true →
    ∀ x ∈ whoChain h fuel impl, h.ovr x = true := by
  intro fuel
  induction fuel with
  | zero => intro impl _ x hx; simp [whoChain] at hx
  | succ f ih =>
    intro impl hi x hx
    simp only [whoChain, List.mem_cons] at hx
    rcases hx with rfl | hx
    · exact hi
    · split at hx
      · exact ih _ (by rw [findWho_eq_vtableWho]; exact vtableWho_ovr h _) x hx
      · simp at hx

theorem bumpMade_length (m : List Nat) (d : Nat) : (bumpMade m d).length = m.length := by
  simp [bumpMade]

theorem addAt_length (m : List Nat) (i k : Nat) : (addAt m i k).length = m.length := by
  simp [addAt]

theorem bumpMade_getD (m : List Nat) (d i : Nat) (hi : i < m.length) :
    (bumpMade m d).getD i 0 = m.getD i 0 + (if i ≤ d then 1 else 0) := by
  simp only [bumpMade, List.getD_eq_getElem?_getD, List.getElem?_map, List.getElem?_zipIdx]
  simp [List.getElem?_eq_getElem hi]
  split <;> simp

theorem addAt_getD (m : List Nat) (j k i : Nat) (hi : i < m.length) :
    (addAt m j k).getD i 0 = m.getD i 0 + (if i = j then k else 0) := by
  simp only [addAt, List.getD_eq_getElem?_getD, List.getElem?_map, List.getElem?_zipIdx]
  simp [List.getElem?_eq_getElem hi]
  split <;> simp

theorem getElem?_snoc {α : Type} (l : List α) (c v : α) (j : Nat) :
    (l ++ [c])[j]? = some v ↔ l[j]? = some v ∨ (j = l.length ∧ c = v) := by
  rcases Nat.lt_trichotomy j l.length with h | h | h
  · rw [List.getElem?_append_left h]
    exact ⟨Or.inl, fun h1 => h1.elim id fun h2 => absurd h2.1 (Nat.ne_of_lt h)⟩
  · subst h; simp
  · rw [List.getElem?_eq_none (by simp; omega), List.getElem?_eq_none (by omega)]
    constructor
    · intro h1; cases h1
    · rintro (h1 | h1)
      · cases h1
      · omega

/-- what the scan does with one more candidate, of cost `c`, at index `i` -/
def pickStep (i : Nat) (c : Option Nat) (acc : Option (Nat × Nat × Bool)) : Option (Nat × Nat × Bool) :=
  match c, acc with
  | none, _ => acc
  | some k, none => some (k, i, false)
  | some k, some (b, j, amb) => if k < b then some (k, i, false) else if k = b then some (b, j, true) else some (b, j, amb)

theorem pickAux_cons (args : List Ty) (c : List Ty) (cs : List (List Ty)) (i : Nat) (acc : Option (Nat × Nat × Bool)) :
    pickAux args (c :: cs) i acc = pickAux args cs (i + 1) (pickStep i (paramsCost c args) acc) := by
  rw [pickAux]
  cases paramsCost c args with
  | none => rfl
  | some k =>
    cases acc with
    | none => rfl
    | some t =>
      obtain ⟨b, j, amb⟩ := t
      simp only [pickStep]
      split
      · rfl
      · split <;> rfl

/-- what the scan has established about the costs seen so far: nothing applicable yet, or the least cost `b`, an index `j`
that has it, and whether another index has it too -/
def PickInv (costs : List (Option Nat)) : Option (Nat × Nat × Bool) → Prop
  | none => ∀ (j : Nat) v, costs[j]? = some v → v = none
  | some (b, j, amb) =>
    costs[j]? = some (some b) ∧
    (∀ (j' : Nat) k, costs[j']? = some (some k) → b ≤ k) ∧
    (amb = true ↔ ∃ j' : Nat, j' ≠ j ∧ costs[j']? = some (some b))

/-- a candidate that is inapplicable or dearer than the best changes nothing -/
theorem PickInv.keep {l : List (Option Nat)} {b j : Nat} {amb : Bool} (h : PickInv l (some (b, j, amb))) {c : Option Nat}
    (hc : ∀ k, c = some k → b < k) : PickInv (l ++ [c]) (some (b, j, amb)) := by
  obtain ⟨h1, h2, h3⟩ := h
  refine ⟨(getElem?_snoc ..).mpr (Or.inl h1), fun j' k hk => ?_, h3.trans ⟨?_, ?_⟩⟩
  · rcases (getElem?_snoc ..).mp hk with hk | ⟨_, hk⟩
    · exact h2 j' k hk
    · exact Nat.le_of_lt (hc k hk)
  · rintro ⟨j', hne, hk⟩
    exact ⟨j', hne, (getElem?_snoc ..).mpr (Or.inl hk)⟩
  · rintro ⟨j', hne, hk⟩
    rcases (getElem?_snoc ..).mp hk with hk | ⟨_, hk⟩
    · exact ⟨j', hne, hk⟩
    · exact absurd (hc b hk) (Nat.lt_irrefl b)

/-- a candidate strictly cheaper than everything before it is the new best, and the only one at its cost -/
theorem PickInv.best {l : List (Option Nat)} {k : Nat} (h : ∀ (j : Nat) k', l[j]? = some (some k') → k < k') :
    PickInv (l ++ [some k]) (some (k, l.length, false)) := by
  refine ⟨(getElem?_snoc ..).mpr (Or.inr ⟨rfl, rfl⟩), fun j' k' hk => ?_, ⟨nofun, ?_⟩⟩
  · rcases (getElem?_snoc ..).mp hk with hk | ⟨_, hk⟩
    · exact Nat.le_of_lt (h j' k' hk)
    · cases hk; exact Nat.le_refl _
  · rintro ⟨j', hne, hk⟩
    rcases (getElem?_snoc ..).mp hk with hk | ⟨hj, _⟩
    · exact absurd (h j' k hk) (Nat.lt_irrefl k)
    · exact absurd hj hne

theorem pickStep_inv (l : List (Option Nat)) (c : Option Nat) (acc : Option (Nat × Nat × Bool)) (h : PickInv l acc) :
    PickInv (l ++ [c]) (pickStep l.length c acc) := by
  match c, acc, h with
  | none, none, h =>
    intro j v hv
    rcases (getElem?_snoc ..).mp hv with hv | ⟨_, hv⟩
    · exact h j v hv
    · exact hv.symm
  | none, some (b, j, amb), h => exact h.keep nofun
  | some k, none, h => exact PickInv.best fun j k' hk => nomatch h j _ hk
  | some k, some (b, j, amb), h =>
    simp only [pickStep]
    split
    · rename_i hkb
      exact PickInv.best fun j' k' hk => Nat.lt_of_lt_of_le hkb (h.2.1 j' k' hk)
    · split
      · -- a tie at the least cost: the new index is the other one
        rename_i hkb
        subst hkb
        have hj : j < l.length := (List.getElem?_eq_some_iff.mp h.1).1
        refine ⟨(getElem?_snoc ..).mpr (Or.inl h.1), fun j' k' hk => ?_,
          iff_of_true rfl ⟨l.length, Nat.ne_of_gt hj, (getElem?_snoc ..).mpr (Or.inr ⟨rfl, rfl⟩)⟩⟩
        rcases (getElem?_snoc ..).mp hk with hk | ⟨_, hk⟩
        · exact h.2.1 j' k' hk
        · cases hk; exact Nat.le_refl _
      · exact h.keep fun k' hk => by cases hk; omega

/-- `pre` is the list of candidates already scanned, so the running index of `pickAux` is `pre.length` -/
theorem pickAux_inv (args : List Ty) : ∀ (cs pre : List (List Ty)) (acc),
    PickInv (pre.map (paramsCost · args)) acc →
    PickInv ((pre ++ cs).map (paramsCost · args)) (pickAux args cs pre.length acc)
  | [], pre, acc, h => by simpa [pickAux] using h
  | c :: cs, pre, acc, h => by
    have := pickAux_inv args cs (pre ++ [c]) _ (by simpa using pickStep_inv _ (paramsCost c args) acc h)
    simpa [pickAux_cons] using this

/-- `pick` by cases: no candidate is applicable; one candidate is strictly cheaper than every other applicable one; two
different candidates tie at the least cost -/
theorem pick_spec (cands : List (List Ty)) (args : List Ty) :
    match pick cands args with
    | .none => ∀ j : Nat, j < cands.length → (cands.map (paramsCost · args))[j]? = some none
    | .chosen i => ∃ b, (cands.map (paramsCost · args))[i]? = some (some b) ∧
        ∀ (j k : Nat), j ≠ i → (cands.map (paramsCost · args))[j]? = some (some k) → b < k
    | .ambiguous => ∃ (i j b : Nat), i ≠ j ∧ (cands.map (paramsCost · args))[i]? = some (some b) ∧
        (cands.map (paramsCost · args))[j]? = some (some b) ∧
        ∀ (j' k : Nat), (cands.map (paramsCost · args))[j']? = some (some k) → b ≤ k := by
  have hinv := pickAux_inv args cands [] none (fun j v hv => by simp at hv)
  simp only [List.nil_append, List.length_nil] at hinv
  unfold pick
  generalize pickAux args cands 0 none = r at hinv
  match r with
  | none =>
    intro j hj
    have hj' : j < (cands.map (paramsCost · args)).length := by simpa using hj
    rw [List.getElem?_eq_getElem hj', hinv j _ (List.getElem?_eq_getElem hj')]
  | some (b, j, false) =>
    obtain ⟨h1, h2, h3⟩ := hinv
    refine ⟨b, h1, fun j' k hne hk => Nat.lt_of_le_of_ne (h2 j' k hk) fun hbk => ?_⟩
    exact Bool.false_ne_true (h3.mpr ⟨j', hne, hbk ▸ hk⟩)
  | some (b, j, true) =>
    obtain ⟨h1, h2, h3⟩ := hinv
    obtain ⟨j', hne, hj'⟩ := h3.mp rfl
    exact ⟨j', j, b, hne, hj', h1, h2⟩

end BlochVerif.Obj
