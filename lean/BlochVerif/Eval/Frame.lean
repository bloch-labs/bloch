import BlochVerif.Eval.Closed
import BlochVerif.Eval.Prims
/-!
# Frame independence (C09): a computation never reads or writes the scopes below its own frame

`withBelow b st` replaces everything below the current frame (the caller's scopes, the caller's caller's, …) by `b`.
`FrameInd m`: running `m` after that replacement gives the same result, the same error, and the same final state up
to the same replacement; and `m` leaves the part below the frame exactly as it was.  The primitives that do not
mention `env`/`frameDepth` are handled uniformly (`EnvObl`, from their run equations).  For the others the state is read
as `Framed st fr below` — the environment is `fr ++ below` and the frame depth is the length of `fr` — which turns every
`take`/`drop` at the frame depth into `fr`/`below`: `lookup`, `assignVar` and `declareVar` are maps of `fr`
(`FrameInd.of_frameMap`), a scope pushes an empty scope on `fr` and pops it again (`withScope_frame`), and a call is a
scope opened on the empty frame.  `closed_all` then gives frame independence for every expression, statement and call.
-/
namespace BlochVerif.Eval
open BlochVerif BlochVerif.Parse BlochVerif.Sim

def reEnv (e : List Scope) (fd : Nat) (st : EState) : EState := { st with env := e, frameDepth := fd }

/-- `m` is oblivious to the environment: it neither reads nor writes `env`/`frameDepth` (the lemmas `eo_*`) -/
def EnvObl {α : Type} (m : EM α) : Prop :=
  ∀ st e fd, m.run (reEnv e fd st) = (m.run st).map (fun r => (r.1, reEnv e fd r.2))

theorem EnvObl.keeps {α : Type} {m : EM α} (h : EnvObl m) {st st' : EState} {a : α} (hr : m.run st = .ok (a, st')) :
    st'.env = st.env ∧ st'.frameDepth = st.frameDepth := by
  have h1 := h st st.env st.frameDepth
  have e1 : reEnv st.env st.frameDepth st = st := rfl
  rw [e1, hr, emap_ok] at h1
  have h2 : st' = reEnv st.env st.frameDepth st' := by
    have := Except.ok.inj h1
    exact (Prod.mk.inj this).2
  constructor
  · rw [h2]; rfl
  · rw [h2]; rfl

theorem EnvObl.bind {α β : Type} {m : EM α} {f : α → EM β} (hm : EnvObl m) (hf : ∀ a, EnvObl (f a)) :
    EnvObl (m >>= f) := by
  intro st e fd
  rw [run_bind', run_bind', hm]
  cases m.run st with
  | error _ => rfl
  | ok r => exact hf r.1 r.2 e fd

theorem EnvObl.modify {f : EState → EState} (h : ∀ st e fd, f (reEnv e fd st) = reEnv e fd (f st)) :
    EnvObl (modify f : EM Unit) := fun st e fd => by rw [run_modify, run_modify, emap_ok, h]

def withBelow (b : List Scope) (st : EState) : EState := { st with env := st.env.take st.frameDepth ++ b }

/-- the frame is well formed: at least one scope belongs to it, and it does not claim more scopes than there are -/
def FWF (st : EState) : Prop := 1 ≤ st.frameDepth ∧ st.frameDepth ≤ st.env.length

def FrameInd {α : Type} (m : EM α) : Prop :=
  ∀ st, FWF st →
    (∀ b, m.run (withBelow b st) = (m.run st).map (fun r => (r.1, withBelow b r.2))) ∧
    (∀ a st', m.run st = .ok (a, st') →
      FWF st' ∧ st'.env.drop st'.frameDepth = st.env.drop st.frameDepth ∧ st'.frameDepth = st.frameDepth)

theorem withBelow_eq_reEnv (b : List Scope) (st : EState) :
    withBelow b st = reEnv (st.env.take st.frameDepth ++ b) st.frameDepth st := rfl

theorem FrameInd.ofEnvObl {α : Type} {m : EM α} (h : EnvObl m) : FrameInd m := by
  intro st hw
  constructor
  · intro b
    rw [withBelow_eq_reEnv, h]
    cases hr : m.run st with
    | error e => rfl
    | ok r =>
      obtain ⟨a, st'⟩ := r
      obtain ⟨he, hf⟩ := h.keeps hr
      simp only [emap_ok]
      rw [withBelow_eq_reEnv, he, hf]
  · intro a st' hr
    obtain ⟨he, hf⟩ := h.keeps hr
    unfold FWF
    rw [he, hf]
    exact ⟨hw, rfl, rfl⟩

theorem FrameInd.pure {α : Type} (a : α) : FrameInd (pure a : EM α) := .ofEnvObl fun _ _ _ => rfl

theorem FrameInd.throw {α : Type} (e : RErr) : FrameInd (throw e : EM α) := .ofEnvObl fun _ _ _ => rfl

theorem FrameInd.bind {α β : Type} (m : EM α) (f : α → EM β) (hm : FrameInd m) (hf : ∀ a, FrameInd (f a)) :
    FrameInd (m >>= f) := by
  intro st hw
  obtain ⟨hm1, hm2⟩ := hm st hw
  constructor
  · intro b
    rw [run_bind', run_bind', hm1 b]
    cases hr : m.run st with
    | error e => rfl
    | ok r =>
      obtain ⟨a, s1⟩ := r
      simp only [emap_ok, ebind_ok]
      obtain ⟨hw1, _, _⟩ := hm2 a s1 hr
      exact ((hf a) s1 hw1).1 b
  · intro b st'' hr
    obtain ⟨a, s1, h1, h2⟩ := run_bind_ok hr
    obtain ⟨hw1, hb1, hd1⟩ := hm2 a s1 h1
    obtain ⟨hw2, hb2, hd2⟩ := ((hf a) s1 hw1).2 b st'' h2
    exact ⟨hw2, hb2.trans hb1, hd2.trans hd1⟩

/-- `st` is inside the frame `fr` (its scopes, innermost first), with the scopes `below` under it -/
structure Framed (st : EState) (fr below : List Scope) : Prop where
  env : st.env = fr ++ below
  depth : st.frameDepth = fr.length

theorem Framed.take {st : EState} {fr below : List Scope} (h : Framed st fr below) :
    st.env.take st.frameDepth = fr := by
  rw [h.env, h.depth, List.take_left']; rfl

theorem Framed.drop {st : EState} {fr below : List Scope} (h : Framed st fr below) :
    st.env.drop st.frameDepth = below := by
  rw [h.env, h.depth, List.drop_left']; rfl

theorem Framed.withBelow {st : EState} {fr below : List Scope} (h : Framed st fr below) (b : List Scope) :
    withBelow b st = { st with env := fr ++ b } := by
  unfold Eval.withBelow; rw [h.take]

theorem Framed.fwf {st : EState} {fr below : List Scope} (h : Framed st fr below) (hp : 0 < fr.length) : FWF st :=
  ⟨h.depth ▸ hp, by rw [h.env, h.depth, List.length_append]; exact Nat.le_add_right ..⟩

theorem FWF.framed {st : EState} (hw : FWF st) : ∃ top fr, Framed st (top :: fr) (st.env.drop st.frameDepth) := by
  have hl : (st.env.take st.frameDepth).length = st.frameDepth := by rw [List.length_take, Nat.min_eq_left hw.2]
  cases hf : st.env.take st.frameDepth with
  | nil => rw [hf] at hl; exact absurd hw.1 (by rw [← hl]; simp)
  | cons top fr => exact ⟨top, fr, by rw [← hf, List.take_append_drop], by rw [← hf, hl]⟩

/-- `FrameInd` through the view: the frame is replaced by one of the same length over the same `below` -/
theorem FrameInd.of_framed {α : Type} {m : EM α}
    (h : ∀ st top fr below, Framed st (top :: fr) below →
      (∀ b, m.run { st with env := top :: fr ++ b } = (m.run st).map (fun r => (r.1, withBelow b r.2))) ∧
      ∀ a st', m.run st = .ok (a, st') → ∃ fr', Framed st' fr' below ∧ fr'.length = (top :: fr).length) :
    FrameInd m := by
  intro st hw
  obtain ⟨top, fr, hv⟩ := hw.framed
  obtain ⟨h1, h2⟩ := h st top fr _ hv
  refine ⟨fun b => hv.withBelow b ▸ h1 b, fun a st' hr => ?_⟩
  obtain ⟨fr', hv', hl⟩ := h2 a st' hr
  exact ⟨hv'.fwf (hl ▸ Nat.succ_pos _), hv'.drop, hv'.depth.trans (hl.trans hv.depth.symm)⟩

/-- A computation that never fails, whose result depends on the frame only and which rewrites the frame, scope for
scope, leaving the rest of the state alone, is frame independent. -/
theorem FrameInd.of_frameMap {α : Type} {m : EM α} (f : List Scope → α) (φ : List Scope → List Scope)
    (hφ : ∀ fr, (φ fr).length = fr.length)
    (hm : ∀ st top fr below, Framed st (top :: fr) below →
      m.run st = .ok (f (top :: fr), { st with env := φ (top :: fr) ++ below })) : FrameInd m :=
  .of_framed fun st top fr below hv => by
    have hv' : Framed { st with env := φ (top :: fr) ++ below } (φ (top :: fr)) below :=
      ⟨rfl, hv.depth.trans (hφ _).symm⟩
    refine ⟨fun b => ?_, fun a st' hr => ?_⟩
    · rw [hm _ _ _ _ hv, hm { st with env := top :: fr ++ b } top fr b ⟨rfl, hv.depth⟩, emap_ok, hv'.withBelow b]
    · rw [hm _ _ _ _ hv] at hr
      cases hr
      exact ⟨_, hv', hφ _⟩

theorem FrameInd.lookup (n : String) : FrameInd (lookup n) :=
  .of_frameMap (frameLookup · n) id (fun _ => rfl) fun st top fr below hv => by
    rw [run_lookup, hv.take, id, ← hv.env]

/-- `declareVar` on the frame: the top scope gains or updates the binding -/
def declFrame (n : String) (e : VarEntry) : List Scope → List Scope
  | top :: rest => top.set n e :: rest
  | [] => []

theorem FrameInd.declareVar (n : String) (e : VarEntry) : FrameInd (declareVar n e) :=
  .of_frameMap (fun _ => ()) (declFrame n e) (fun fr => by cases fr <;> rfl) fun st top fr below hv => by
    rw [run_declareVar, hv.env]; rfl

theorem assignVar_go_length (name : String) (v : Value) :
    ∀ (l l' : List Scope), assignVar.go name v l = some l' → l'.length = l.length := by
  intro l
  induction l with
  | nil => intro l' h; simp [assignVar.go] at h
  | cons sc rest ih =>
    intro l' h
    simp only [assignVar.go] at h
    split at h
    · cases h; simp
    · cases hg : assignVar.go name v rest with
      | none => simp [hg] at h
      | some r => simp [hg] at h; subst h; simp [ih r hg]

theorem FrameInd.assignVar (n : String) (v : Value) : FrameInd (assignVar n v) :=
  .of_frameMap (fun _ => ()) (fun fr => (assignVar.go n v fr).getD
      (declFrame n { value := v, tracked := false, initialized := true } fr))
    (fun fr => by
      cases hg : assignVar.go n v fr with
      | some env' => exact assignVar_go_length n v _ _ hg
      | none => cases fr <;> rfl)
    fun st top fr below hv => by
      rw [run_assignVar, hv.take, hv.drop]
      cases hg : assignVar.go n v (top :: fr) with
      | some env' => rfl
      | none => rw [run_declareVar, hv.env]; rfl

/-- ending a scope pops the top of the frame; what it records depends on that scope only, not on what lies below -/
theorem endS_framed {st : EState} {top : Scope} {fr below : List Scope} (hv : Framed st (top :: fr) below) :
    Framed (endS st) fr below ∧ ∀ b, endS { st with env := top :: fr ++ b } = { endS st with env := fr ++ b } := by
  unfold endS
  rw [hv.env]
  exact ⟨⟨rfl, by show st.frameDepth - 1 = _; rw [hv.depth]; rfl⟩, fun b => rfl⟩

/-- A scope around a frame-independent body, opened on a frame of any length — also the empty one, where the new scope
is the whole frame (a call, `run_withFrame`). -/
theorem withScope_frame {α : Type} {m : EM α} (hm : FrameInd m) {st : EState} {fr below : List Scope}
    (hv : Framed st fr below) :
    (∀ b, (withScope m).run { st with env := fr ++ b } =
      ((withScope m).run st).map (fun r => (r.1, withBelow b r.2))) ∧
    ∀ a st', (withScope m).run st = .ok (a, st') → ∃ fr', Framed st' fr' below ∧ fr'.length = fr.length := by
  have hv0 : Framed (beginS st) ([] :: fr) below := ⟨congrArg _ hv.env, congrArg (· + 1) hv.depth⟩
  obtain ⟨h1, h2⟩ := hm (beginS st) (hv0.fwf (Nat.succ_pos _))
  have hb : ∀ b, m.run (beginS { st with env := fr ++ b }) = (m.run (beginS st)).map (fun r => (r.1, withBelow b r.2)) :=
    fun b => (congrArg m.run (hv0.withBelow b)).symm.trans (h1 b)
  cases hr : m.run (beginS st) with
  | error e =>
    refine ⟨fun b => ?_, fun a st' h => ?_⟩
    · rw [run_withScope, run_withScope, hb, hr]; rfl
    · rw [run_withScope, hr] at h; cases h
  | ok r =>
    -- the body ends in a frame with one scope more than `fr`, over the same `below`; `endS` pops that scope
    obtain ⟨hw', hd, hl⟩ := h2 r.1 r.2 hr
    obtain ⟨top', fr', hv'⟩ := hw'.framed
    rw [hd, hv0.drop] at hv'
    obtain ⟨he, hend⟩ := endS_framed hv'
    refine ⟨fun b => ?_, fun a st' h => ?_⟩
    · rw [run_withScope, run_withScope, hb, hr, emap_ok, ebind_ok, ebind_ok, emap_ok, hv'.withBelow b, hend b,
        he.withBelow b]
    · rw [run_withScope, hr, ebind_ok] at h
      cases h
      exact ⟨fr', he, Nat.succ.inj (hv'.depth.symm.trans (hl.trans hv0.depth))⟩

theorem FrameInd.withScope {α : Type} (m : EM α) (hm : FrameInd m) : FrameInd (withScope m) :=
  .of_framed fun _ _ _ _ hv => withScope_frame hm hv

/-- A call boundary cuts the caller's environment off completely: whatever environment and frame depth the caller
has, the bracketed computation behaves the same and hands them back untouched.  A call opens its scope on the empty
frame, with the caller's whole environment below it. -/
theorem EnvObl.withFrame {α : Type} {m : EM α} (hm : FrameInd m) : EnvObl (withFrame m) := by
  intro st e' fd'
  obtain ⟨h1, h2⟩ := withScope_frame hm (st := { st with frameDepth := 0 }) (fr := []) ⟨rfl, rfl⟩
  rw [run_withFrame, run_withFrame]
  -- setting the frame depth to 0 has erased `fd'`; the environment `e'` is written as `[] ++ e'`, the form `h1` has for `fr = []`
  show Except.map _ ((withScope m).run { { st with frameDepth := 0 } with env := [] ++ e' }) = _
  rw [h1 e']
  cases hr : (withScope m).run { st with frameDepth := 0 } with
  | error e => rfl
  | ok r =>
    obtain ⟨fr', hv', hl⟩ := h2 r.1 r.2 hr
    cases List.eq_nil_of_length_eq_zero hl
    rw [emap_ok, emap_ok, emap_ok, hv'.withBelow e']
    rfl

theorem FrameInd.withFrame {α : Type} (m : EM α) (hm : FrameInd m) : FrameInd (withFrame m) :=
  .ofEnvObl (.withFrame hm)

/-! The primitives that do not mention `env`/`frameDepth`: their run equations (`Eval/Prims.lean`) read and update other
fields only, so once the branch is decided — by the same test or the same answer of the simulator in both runs — the two
sides are the same term (`rfl`).  `apply_ite` moves the map, or `reEnv`, into the branches of a test; `unfold reEnv` lets
`cases` see that the simulator is asked the same question in both runs. -/

theorem eo_echoLine (l : String) : EnvObl (echoLine l) :=
  .modify fun st e fd => by rw [apply_ite (reEnv e fd)]; rfl
theorem eo_markMeasured (q : Int) : EnvObl (markMeasured q) :=
  .modify fun st e fd => by rw [apply_ite (reEnv e fd)]; rfl
theorem eo_unmarkMeasured (q : Int) : EnvObl (unmarkMeasured q) := .modify fun _ _ _ => rfl
theorem eo_setLastMeasurement (q b : Int) : EnvObl (setLastMeasurement q b) :=
  .modify fun st e fd => by rw [apply_ite (reEnv e fd)]; rfl

theorem eo_ensureQubitExists (i : Int) (p : Parse.P) : EnvObl (ensureQubitExists i p) := fun st e fd => by
  rw [run_ensureQubitExists, run_ensureQubitExists, apply_ite (Except.map _)]
  rfl

theorem eo_ensureQubitActive (i : Int) (p : Parse.P) : EnvObl (ensureQubitActive i p) := fun st e fd => by
  rw [run_ensureQubitActive, run_ensureQubitActive, apply_ite (Except.map _), apply_ite (Except.map _)]
  rfl

theorem eo_simGate (op : QOp Float) : EnvObl (simGate op) := fun st e fd => by
  unfold reEnv
  rw [run_simGate, run_simGate]
  cases Sim.gate1 floatOps st.sim op <;> rfl

theorem eo_simCx (c t : Int) : EnvObl (simCx c t) := fun st e fd => by
  unfold reEnv
  rw [run_simCx, run_simCx, apply_ite (Except.map _)]
  cases Sim.cx st.sim c.toNat t.toNat <;> rfl

theorem eo_simReset (q : Int) : EnvObl (simReset q) := fun st e fd => by
  unfold reEnv
  rw [run_simReset, run_simReset, apply_ite (Except.map _)]
  cases Sim.reset floatOps st.sim q.toNat (st.draws.headD 0.5) <;> rfl

theorem eo_simMeasure (q : Int) : EnvObl (simMeasure q) := fun st e fd => by
  unfold reEnv
  rw [run_simMeasure, run_simMeasure, apply_ite (Except.map _)]
  cases Sim.ensureActive st.sim q.toNat <;> cases Sim.measure floatOps st.sim q.toNat (st.draws.headD 0.5) <;> rfl

theorem eo_measureQubit (q : Int) (p : Parse.P) : EnvObl (measureQubit q p) :=
  .bind (eo_ensureQubitActive q p) fun _ => .bind (eo_simMeasure q) fun b => .bind (eo_markMeasured q) fun _ =>
    .bind (eo_setLastMeasurement q b) fun _ _ _ _ => rfl

theorem eo_resetQubit (q : Int) (p : Parse.P) : EnvObl (resetQubit q p) :=
  .bind (eo_ensureQubitExists q p) fun _ => .bind (eo_simReset q) fun _ => eo_unmarkMeasured q

theorem eo_allocateTrackedQubit (n : String) : EnvObl (allocateTrackedQubit n) := by
  intro st e fd
  -- with the record taken apart, which of the two paths is taken is decided by the free list alone
  cases st with | mk sim env fd0 rv hr ee echo tr qs fq lm draws oc fn =>
  cases fq with
  | nil => rfl
  | cons idx rest =>
    -- a released index: what follows the removal of `idx` from the free list is a reset and two updates of the qubit table
    exact EnvObl.bind (eo_simReset idx) (fun _ => .bind (eo_unmarkMeasured idx) fun _ =>
      .bind (.modify fun _ _ _ => by rfl) fun _ _ _ _ => by rfl)
      (EState.mk sim env fd0 rv hr ee echo tr qs rest lm draws oc fn) e fd

theorem frameInd_closed : Closed (fun {α} (m : EM α) => FrameInd m) where
  pure := FrameInd.pure
  bind := FrameInd.bind
  throw := FrameInd.throw
  lookup := FrameInd.lookup
  assignVar := FrameInd.assignVar
  declareVar := FrameInd.declareVar
  withScope := FrameInd.withScope
  withFrame := FrameInd.withFrame
  getHasReturn := .ofEnvObl fun _ _ _ => rfl
  setHasReturn := fun _ => .ofEnvObl fun _ _ _ => rfl
  clearReturn := .ofEnvObl fun _ _ _ => rfl
  getReturnValue := .ofEnvObl fun _ _ _ => rfl
  setReturnValue := fun _ => .ofEnvObl fun _ _ _ => rfl
  lookupFnM := fun _ => .ofEnvObl fun _ _ _ => rfl
  echoLine := fun l => FrameInd.ofEnvObl (eo_echoLine l)
  allocateTrackedQubit := fun n => FrameInd.ofEnvObl (eo_allocateTrackedQubit n)
  ensureQubitActive := fun i p => FrameInd.ofEnvObl (eo_ensureQubitActive i p)
  resetQubit := fun q p => FrameInd.ofEnvObl (eo_resetQubit q p)
  simGate := fun op => FrameInd.ofEnvObl (eo_simGate op)
  simCx := fun c t => FrameInd.ofEnvObl (eo_simCx c t)
  measureQubit := fun q p => FrameInd.ofEnvObl (eo_measureQubit q p)

theorem frameInd_eval (fuel : Nat) (e : Expr) : FrameInd (eval fuel e) := closed_eval frameInd_closed fuel e
theorem frameInd_exec (fuel : Nat) (s : Stmt) : FrameInd (exec fuel s) := closed_exec frameInd_closed fuel s
theorem frameInd_execSeq (fuel : Nat) (ss : List Stmt) : FrameInd (execSeq fuel ss) :=
  closed_execSeq frameInd_closed fuel ss
theorem frameInd_call (fuel : Nat) (fn : FuncDecl) (args : List Value) : FrameInd (call fuel fn args) :=
  closed_call frameInd_closed fuel fn args

/-- `frameInd_call` does not give this: `FrameInd` presupposes a state inside a frame and abstracts only what lies below
it, while the caller's state is arbitrary.  So the bracket is peeled off first (`EnvObl.withFrame`), and frame independence
is needed of what stands *inside* `withFrame`, which `closed_call` does not expose: hence the walk through `call`. -/
theorem envObl_call (fuel : Nat) (fn : FuncDecl) (args : List Value) : EnvObl (call fuel fn args) := by
  cases fuel with
  | zero => exact fun _ _ _ => rfl
  | succ fuel =>
    unfold call
    refine .withFrame ?_
    have hc := frameInd_closed
    refine hc.bind _ _ (closed_declareParams hc _) (fun _ => hc.bind _ _ hc.clearReturn (fun _ => ?_))
    dsimp only
    split
    · exact hc.bind _ _ (frameInd_execSeq fuel _) (fun _ => hc.bind _ _ hc.getReturnValue (fun _ => hc.pure _))
    · exact hc.bind _ _ (frameInd_exec fuel _) (fun _ => hc.bind _ _ hc.getReturnValue (fun _ => hc.pure _))

/-- **C09 for the whole evaluator.**  A call never sees and never changes its caller's environment. -/
theorem call_cut_off (fuel : Nat) (fn : FuncDecl) (args : List Value) (st : EState) (e' : List Scope) (fd' : Nat) :
    (call fuel fn args).run (reEnv e' fd' st) =
      ((call fuel fn args).run st).map (fun r => (r.1, reEnv e' fd' r.2)) ∧
    ∀ v st', (call fuel fn args).run st = .ok (v, st') → st'.env = st.env ∧ st'.frameDepth = st.frameDepth :=
  ⟨envObl_call fuel fn args st e' fd', fun _ _ h => (envObl_call fuel fn args).keeps h⟩

end BlochVerif.Eval
