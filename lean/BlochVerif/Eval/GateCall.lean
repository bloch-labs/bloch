import BlochVerif.Eval.FlagsAgree
/-!
# A gate call is refused only by the evaluator's own, located check

Under the agreement invariant (`Agree`: it holds at program start and is kept by every successful call and statement) the simulator never refuses an operation that the
evaluator's guard has let through, so every error of a built-in gate call, of a measurement and of a reset carries the
position of the operation.  At the end, what the three do to the flags when they succeed: the guard refuses a qubit in the
state a measurement leaves, lets it through in the state a reset leaves, and a gate call changes the simulator only.
-/
namespace BlochVerif.Eval
open BlochVerif BlochVerif.Parse BlochVerif.Sim

theorem guard_error_located {q : Int} {p : P} {st : EState} {e : RErr}
    (h : (ensureQubitActive q p).run st = .error e) : ∃ msg, e = .runtime p.line p.col msg := by
  rw [run_ensureQubitActive] at h
  split at h
  · cases h; exact ⟨_, rfl⟩
  · split at h
    · cases h; exact ⟨_, rfl⟩
    · cases h

/-- where the flags agree, what the evaluator's guard lets through the simulator's guard lets through -/
theorem Agree.ensureActive {st : EState} (hi : Agree st) {q : Int} (h0 : 0 ≤ q) (hl : q < st.qubits.length)
    (hm : (st.qubits.getD q.toNat default).measured = false) : Sim.ensureActive st.sim q.toNat = .ok () := by
  have hlt : q.toNat < st.sim.n := by rw [← hi.count]; omega
  exact (ensureActive_eq_ok _ _).mpr ⟨hlt, by rw [← hi.same _ hlt]; exact hm⟩

theorem simGate_no_error {st : EState} {op : QOp Float} {q : Nat} {m : Mat2 CF}
    (hm : gateMat floatOps op = some (q, m)) (ha : Sim.ensureActive st.sim q = .ok ()) (e : RErr) :
    (simGate op).run st ≠ .error e := by
  rw [run_simGate, (gate1_eq_ok _ _ _ _).mpr (.inr ⟨q, m, hm, ha, rfl⟩)]
  exact fun h => by cases h

theorem simCx_no_error {st : EState} {c t : Int} (hc : 0 ≤ c) (ht : 0 ≤ t) (hne : c ≠ t)
    (ha : Sim.ensureActive st.sim c.toNat = .ok ()) (hb : Sim.ensureActive st.sim t.toNat = .ok ()) (e : RErr) :
    (simCx c t).run st ≠ .error e := by
  rw [run_simCx, if_neg (by omega), (cx_eq_ok _ _ _ _).mpr ⟨ha, hb, by omega, rfl⟩]
  exact fun h => by cases h

theorem simMeasure_no_error {st : EState} {q : Int} (hq : 0 ≤ q) (ha : Sim.ensureActive st.sim q.toNat = .ok ())
    (e : RErr) : (simMeasure q).run st ≠ .error e := by
  rw [run_simMeasure, if_neg (by omega), ha]
  dsimp only
  rw [(measure_eq_ok _ _ _ _ _).mpr ⟨ha, rfl⟩]
  exact fun h => by cases h

theorem simReset_no_error {st : EState} {q : Int} (hq : 0 ≤ q) (hlt : q.toNat < st.sim.n) (e : RErr) :
    (simReset q).run st ≠ .error e := by
  rw [run_simReset, if_neg (by omega), (reset_eq_ok _ _ _ _ _).mpr ⟨hlt, rfl⟩]
  exact fun h => by cases h

/-- **Every error of a built-in gate call is the evaluator's own, at the position of the call**: in a state where the
flags agree the simulator's un-located refusals (out of range, measured qubit, equal operands) cannot occur. -/
theorem applyBuiltin_errors_are_located {st : EState} (hi : Agree st) {name : String} {argv : List Value} {p : P}
    {e : RErr} (h : (applyBuiltin name argv p).run st = .error e) : ∃ msg, e = .runtime p.line p.col msg := by
  obtain hb | ⟨m, hb, hm⟩ := applyBuiltin_eq name argv p
  · rw [hb] at h
    obtain h1 | ⟨_, _, h1, k1⟩ := run_bind_error h
    · exact guard_error_located h1
    obtain ⟨rfl, hc, hlc, hmc⟩ := ensureQubitActive_ok h1
    obtain h2 | ⟨_, _, h2, k2⟩ := run_bind_error k1
    · exact guard_error_located h2
    obtain ⟨rfl, ht, hlt, hmt⟩ := ensureQubitActive_ok h2
    split at k2
    · cases k2; exact ⟨_, rfl⟩
    · rename_i hne
      exact absurd k2 (simCx_no_error hc ht (by simpa using hne) (hi.ensureActive hc hlc hmc)
        (hi.ensureActive ht hlt hmt) e)
  · rw [hb] at h
    obtain h1 | ⟨_, _, h1, k1⟩ := run_bind_error h
    · exact guard_error_located h1
    obtain ⟨rfl, hc, hlc, hmc⟩ := ensureQubitActive_ok h1
    obtain rfl | ⟨op, mat, rfl, hg⟩ := hm
    · cases k1; exact ⟨_, rfl⟩
    · exact absurd k1 (simGate_no_error hg (hi.ensureActive hc hlc hmc) e)

/-- **`measure` is refused only by the evaluator's located check** -/
theorem measureQubit_errors_are_located {st : EState} (hi : Agree st) {q : Int} {p : P}
    {e : RErr} (h : (measureQubit q p).run st = .error e) : ∃ msg, e = .runtime p.line p.col msg := by
  unfold measureQubit at h
  obtain h1 | ⟨_, _, h1, k1⟩ := run_bind_error h
  · exact guard_error_located h1
  obtain ⟨rfl, h0, hl, hm⟩ := ensureQubitActive_ok h1
  obtain h2 | ⟨_, _, _, k2⟩ := run_bind_error k1
  · exact absurd h2 (simMeasure_no_error h0 (hi.ensureActive h0 hl hm) e)
  · cases k2  -- the book-keeping after the simulator's answer (two `modify`s) cannot fail

/-- **`reset` is refused only by the evaluator's located check** -/
theorem resetQubit_errors_are_located {st : EState} (hi : Agree st) {q : Int} {p : P}
    {e : RErr} (h : (resetQubit q p).run st = .error e) : ∃ msg, e = .runtime p.line p.col msg := by
  unfold resetQubit at h
  obtain h1 | ⟨_, _, h1, k1⟩ := run_bind_error h
  · rw [run_ensureQubitExists] at h1
    split at h1
    · cases h1; exact ⟨_, rfl⟩
    · cases h1
  obtain ⟨rfl, h0, hl⟩ := ensureQubitExists_ok h1
  obtain h2 | ⟨_, _, _, k2⟩ := run_bind_error k1
  · exact absurd h2 (simReset_no_error h0 (by rw [← hi.count]; omega) e)
  · cases k2  -- nor can clearing the flag

/-- **In the state `reset q` leaves the guard lets `q` through**, whatever its flag before -/
theorem reset_makes_usable {st st' : EState} {q : Int} {p : P} (p' : P)
    (h : (resetQubit q p).run st = .ok ((), st')) : (ensureQubitActive q p').run st' = .ok ((), st') := by
  obtain ⟨h0, hl, _, _, _, rfl⟩ := resetQubit_ok h
  have hl' : q.toNat < st.qubits.length := by omega
  rw [run_ensureQubitActive, if_neg (by simp only [List.length_set]; omega)]
  simp [List.getD_eq_getElem?_getD, hl']

/-- **In the state `measure q` leaves the guard refuses `q`**, at the position of the operation that asks -/
theorem measure_makes_unusable {st st' : EState} {q : Int} {p : P} {v : Value} (p' : P)
    (h : (measureQubit q p).run st = .ok (v, st')) :
    (ensureQubitActive q p').run st' = .error (.runtime p'.line p'.col "qubit has already been measured") := by
  obtain ⟨h0, hl, _, _, _, _, _, rfl⟩ := measureQubit_ok h
  have hl' : q.toNat < st.qubits.length := by omega
  rw [run_ensureQubitActive, if_neg (by simp only [List.length_set]; omega)]
  simp [List.getD_eq_getElem?_getD, hl']

theorem applyBuiltin_ok {st st' : EState} {name : String} {argv : List Value} {p : P}
    (h : (applyBuiltin name argv p).run st = .ok ((), st')) : ∃ s, st' = { st with sim := s } := by
  obtain hb | ⟨m, hb, hm⟩ := applyBuiltin_eq name argv p
  · rw [hb] at h
    obtain ⟨_, _, h1, k1⟩ := run_bind_ok h
    obtain ⟨rfl, _⟩ := ensureQubitActive_ok h1
    obtain ⟨_, _, h2, k2⟩ := run_bind_ok k1
    obtain ⟨rfl, _⟩ := ensureQubitActive_ok h2
    split at k2
    · cases k2
    · obtain ⟨_, _, s, _, rfl⟩ := simCx_ok k2
      exact ⟨s, rfl⟩
  · rw [hb] at h
    obtain ⟨_, _, h1, k1⟩ := run_bind_ok h
    obtain ⟨rfl, _⟩ := ensureQubitActive_ok h1
    obtain rfl | ⟨op, _, rfl, _⟩ := hm
    · cases k1
    · obtain ⟨s, _, rfl⟩ := simGate_ok k1
      exact ⟨s, rfl⟩

end BlochVerif.Eval
