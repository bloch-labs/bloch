import BlochVerif.Eval.Hoare
/-!
# What no program can touch: the function table, the echo switch; what it can only extend: echo, outcomes, draws

`Forward`, with `call_only_moves_forward` for every call and `execute_quiet` for a run with the echo switched off; then
`Paired`: as many draws are gone as outcome records have been added.  Both are instances of `PrimsHoare.of_drawRel`.
-/
namespace BlochVerif.Eval
open BlochVerif BlochVerif.Parse

/-- the step relation "only forward": control fields fixed, logs extended, draws consumed from the front -/
structure Forward (s s' : EState) : Prop where
  fn : s'.lookupFn = s.lookupFn
  sw : s'.echoEnabled = s.echoEnabled
  echo : ∃ pre, s'.echo = pre ++ s.echo
  quiet : s.echoEnabled = false → s'.echo = s.echo
  outcomes : ∃ pre, s'.outcomes = pre ++ s.outcomes
  draws : ∃ k, s'.draws = s.draws.drop k

theorem Forward.refl (s : EState) : Forward s s :=
  ⟨rfl, rfl, ⟨[], rfl⟩, fun _ => rfl, ⟨[], rfl⟩, ⟨0, rfl⟩⟩

theorem Forward.trans (a b c : EState) (h1 : Forward a b) (h2 : Forward b c) : Forward a c := by
  obtain ⟨p1, hp1⟩ := h1.echo
  obtain ⟨p2, hp2⟩ := h2.echo
  obtain ⟨q1, hq1⟩ := h1.outcomes
  obtain ⟨q2, hq2⟩ := h2.outcomes
  obtain ⟨k1, hk1⟩ := h1.draws
  obtain ⟨k2, hk2⟩ := h2.draws
  refine ⟨h2.fn.trans h1.fn, h2.sw.trans h1.sw, ⟨p2 ++ p1, by rw [hp2, hp1, List.append_assoc]⟩, ?_,
    ⟨q2 ++ q1, by rw [hq2, hq1, List.append_assoc]⟩, ⟨k1 + k2, by rw [hk2, hk1, List.drop_drop]⟩⟩
  intro h
  rw [h2.quiet (by rw [h1.sw]; exact h), h1.quiet h]

theorem Forward.of_same {s s' : EState} (h1 : s'.lookupFn = s.lookupFn) (h2 : s'.echoEnabled = s.echoEnabled)
    (h3 : s'.echo = s.echo) (h4 : s'.outcomes = s.outcomes) (h5 : s'.draws = s.draws) : Forward s s' :=
  ⟨h1, h2, ⟨[], by simp [h3]⟩, fun _ => h3, ⟨[], by simp [h4]⟩, ⟨0, by simp [h5]⟩⟩

theorem Forward.of_draw {s s' : EState} {x : Char × Nat × Nat} (h1 : s'.lookupFn = s.lookupFn)
    (h2 : s'.echoEnabled = s.echoEnabled) (h3 : s'.echo = s.echo) (h4 : s'.outcomes = x :: s.outcomes)
    (h5 : s'.draws = s.draws.tail) : Forward s s' :=
  ⟨h1, h2, ⟨[], by simp [h3]⟩, fun _ => h3, ⟨[x], h4⟩, ⟨1, by simp [h5]⟩⟩

abbrev Fwd {α : Type} (m : EM α) : Prop := Hoare (fun _ => True) Forward m

theorem fwd_modify (f : EState → EState) (h : ∀ s, Forward s (f s)) : Fwd (modify f : EM Unit) :=
  Hoare.of_run _ f (fun _ => rfl) (fun s _ => ⟨trivial, h s⟩)

theorem fwd_throw {α : Type} (e : RErr) : Fwd (throw e : EM α) := Hoare.throw e

theorem fwd_get : Fwd (get : EM EState) := Hoare.of_run id id (fun _ => rfl) (fun s _ => ⟨trivial, Forward.refl s⟩)

theorem fwd_set_of (s : EState) (h : ∀ st, Forward st s) : Fwd (set s : EM Unit) :=
  Hoare.of_run _ (fun _ => s) (fun _ => rfl) (fun st _ => ⟨trivial, h st⟩)

theorem fwd_ensureQubitExists (i : Int) (p : Parse.P) : Fwd (ensureQubitExists i p) := by
  intro st _ a st' h
  obtain ⟨rfl, _⟩ := ensureQubitExists_ok h
  exact ⟨trivial, Forward.refl _⟩

theorem fwd_echoLine (l : String) : Fwd (echoLine l) :=
  fwd_modify _ fun st => by
    split
    next he => exact ⟨rfl, rfl, ⟨[l], rfl⟩, (fun h => absurd (h.symm.trans he) Bool.false_ne_true), ⟨[], rfl⟩, ⟨0, rfl⟩⟩
    next => exact Forward.refl st

theorem forward_prims : PrimsHoare (fun _ => True) Forward :=
  .of_drawRel Forward.trans (fun _ _ => .of_same) (fun _ _ _ => .of_draw) fwd_echoLine

/-- **No program can redefine a function, flip the echo switch, retract a printed line or a recorded outcome, or
put a random draw back**: for every function, argument list and fuel. -/
theorem call_only_moves_forward (fuel : Nat) (fn : FuncDecl) (args : List Value) (st st' : EState) (v : Value)
    (h : (call fuel fn args).run st = .ok (v, st')) : Forward st st' :=
  (hoare_call forward_prims fuel fn args st trivial v st' h).2

/-- `--echo=none`: whatever the program does, nothing is echoed -/
theorem execute_quiet (prog : Program) (draws : List Float) (logOps : Bool) (fuel : Nat) :
    (execute prog draws false logOps fuel).echo = [] := by
  obtain ⟨st, hq, -, -, he⟩ := execute_state prog draws false logOps fuel (P := fun st => st.echo = []) rfl
    fun fn v st h => (call_only_moves_forward fuel fn [] _ st v h).quiet rfl
  rw [he, hq]
  rfl

/-! ### as many draws taken as outcomes recorded

The evaluator takes its random numbers from the front of `draws` (the harness forces them; the C++ draws from its
generator) and records every measurement and every reset in `outcomes`.  `Paired` counts: the draw list has lost `k`
elements and the record has gained `k`.  It does not say which draw decided which record, and once the list is exhausted
(`nextDraw` then answers 0.5 and leaves `[]`) dropping costs nothing; the correspondence runs (C02, C04, C18) supply
enough draws. -/

/-- `k` draws were dropped from the front and `k` outcome records were added (newest first) -/
def Paired (s s' : EState) : Prop :=
  ∃ k pre, s'.draws = s.draws.drop k ∧ s'.outcomes = pre ++ s.outcomes ∧ pre.length = k

theorem Paired.trans (a b c : EState) (h1 : Paired a b) (h2 : Paired b c) : Paired a c := by
  obtain ⟨k1, p1, d1, o1, l1⟩ := h1
  obtain ⟨k2, p2, d2, o2, l2⟩ := h2
  refine ⟨k1 + k2, p2 ++ p1, by rw [d2, d1, List.drop_drop], by rw [o2, o1, List.append_assoc], ?_⟩
  rw [List.length_append, l1, l2]; omega

theorem paired_prims : PrimsHoare (fun _ => True) Paired :=
  .of_drawRel Paired.trans (fun _ _ _ _ _ ho hd => ⟨0, [], hd, ho, rfl⟩)
    (fun _ _ x _ _ _ ho hd => ⟨1, [x], by simp [hd], ho, rfl⟩)
    (Hoare.echoLine_of_frame (fun _ => ⟨0, [], rfl, rfl, rfl⟩) fun _ _ _ => ⟨trivial, 0, [], rfl, rfl, rfl⟩)

theorem call_pairs_draws_with_outcomes (fuel : Nat) (fn : FuncDecl) (args : List Value) (st st' : EState) (v : Value)
    (h : (call fuel fn args).run st = .ok (v, st')) : Paired st st' :=
  (hoare_call paired_prims fuel fn args st trivial v st' h).2

end BlochVerif.Eval
