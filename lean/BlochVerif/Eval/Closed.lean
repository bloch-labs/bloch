import BlochVerif.Eval.Model
/-!
# An induction principle for the evaluator model

`eval`, `exec`, `call` and their helpers touch the evaluator state only through a fixed list of primitives, the
brackets `withScope`/`withFrame`, `pure`, `bind` and `throw`.  Hence any predicate on computations that contains
the primitives and is closed under the combinators holds of the evaluation of every expression, statement and call,
at every fuel: `closed_all`.  `Eval/*` and `Props/C17.lean` instantiate it (state invariants via `Closed.ofHoare`, the
frame-independence relation of C09 directly).  The brackets are primitives as wholes, not as their halves
`beginScope`/`endScope` and `enterFrame`/`leaveFrame`: a relation such as frame independence holds of `withFrame m` and of
neither half.  `applyBuiltin_eq`, the shape of a built-in gate call, stands here because the principle's case for gate
calls is read off it; `Eval/GateCall.lean` uses it again.
-/
namespace BlochVerif.Eval
open BlochVerif BlochVerif.Parse

structure Closed (Q : {α : Type} → EM α → Prop) : Prop where
  pure : ∀ {α : Type} (a : α), Q (pure a : EM α)
  bind : ∀ {α β : Type} (m : EM α) (f : α → EM β), Q m → (∀ a, Q (f a)) → Q (m >>= f)
  throw : ∀ {α : Type} (e : RErr), Q (throw e : EM α)
  lookup : ∀ n, Q (lookup n)
  assignVar : ∀ n v, Q (assignVar n v)
  declareVar : ∀ n e, Q (declareVar n e)
  withScope : ∀ {α : Type} (m : EM α), Q m → Q (withScope m)
  withFrame : ∀ {α : Type} (m : EM α), Q m → Q (withFrame m)
  getHasReturn : Q getHasReturn
  setHasReturn : ∀ b, Q (setHasReturn b)
  clearReturn : Q clearReturn
  getReturnValue : Q getReturnValue
  setReturnValue : ∀ v, Q (setReturnValue v)
  lookupFnM : ∀ n, Q (lookupFnM n)
  echoLine : ∀ l, Q (echoLine l)
  allocateTrackedQubit : ∀ n, Q (allocateTrackedQubit n)
  ensureQubitActive : ∀ i p, Q (ensureQubitActive i p)
  resetQubit : ∀ q p, Q (resetQubit q p)
  simGate : ∀ op, Q (simGate op)
  simCx : ∀ c t, Q (simCx c t)
  measureQubit : ∀ q p, Q (measureQubit q p)

theorem ite_ind {α : Type} {P : α → Prop} (c : Prop) [Decidable c] {a b : α} (ha : P a) (hb : P b) :
    P (if c then a else b) := by
  split <;> assumption

/-- A built-in gate call is the guard on each operand followed by one simulator call — or by the refusal of equal `cx`
operands or of a non-finite rotation angle, both at the position of the call. -/
theorem applyBuiltin_eq (name : String) (argv : List Value) (p : Parse.P) :
    applyBuiltin name argv p = (do
        ensureQubitActive (argv.getD 0 {}).qubit p
        ensureQubitActive (argv.getD 1 {}).qubit p
        if (argv.getD 0 {}).qubit == (argv.getD 1 {}).qubit then rtErr p "cx requires distinct control and target qubits"
        else simCx (argv.getD 0 {}).qubit (argv.getD 1 {}).qubit) ∨
    ∃ m : EM Unit, applyBuiltin name argv p = (do ensureQubitActive (argv.getD 0 {}).qubit p; m) ∧
      (m = rtErr p "rotation angle must be finite" ∨
        ∃ op mat, m = simGate op ∧ Sim.gateMat Sim.floatOps op = some ((argv.getD 0 {}).qubit.toNat, mat)) := by
  unfold applyBuiltin
  dsimp only
  by_cases hc : (name == "cx") = true
  · rw [if_pos hc]
    exact .inl rfl
  · rw [if_neg hc]
    refine .inr ⟨_, rfl, ?_⟩
    let P : EM Unit → Prop := fun m => m = rtErr p "rotation angle must be finite" ∨
      ∃ op mat, m = simGate op ∧ Sim.gateMat Sim.floatOps op = some ((argv.getD 0 {}).qubit.toNat, mat)
    have g : ∀ op mat, Sim.gateMat Sim.floatOps op = some ((argv.getD 0 {}).qubit.toNat, mat) → P (simGate op) :=
      fun op mat h => .inr ⟨op, mat, rfl, h⟩
    -- the cascade in its order: h, x, y, z, the test of the angle, rx, ry, rz; `by rfl` evaluates `gateMat` on the constructor
    exact ite_ind (P := P) _ (g _ _ (by rfl)) <| ite_ind _ (g _ _ (by rfl)) <| ite_ind _ (g _ _ (by rfl)) <|
      ite_ind _ (g _ _ (by rfl)) <| ite_ind _ (.inl rfl) <| ite_ind _ (g _ _ (by rfl)) <|
      ite_ind _ (g _ _ (by rfl)) (g _ _ (by rfl))

section
variable {Q : {α : Type} → EM α → Prop} (hP : Closed Q)
include hP

theorem closed_rtErr {α : Type} (p : Parse.P) (msg : String) : Q (rtErr p msg : EM α) := hP.throw _

theorem closed_liftE {α : Type} (x : Except RErr α) : Q (liftE x) := by
  cases x with
  | ok a => exact hP.pure a
  | error e => exact hP.throw e

set_option hygiene false in
/-- One step of the structural decomposition of a computation built from the primitives: take a `bind` or a
conditional apart, or close a leaf.  Every alternative is tried at reducible transparency (here and where the induction
hypotheses are tried before it): a leaf lemma that does not fit must fail on the shape of the goal and not by unfolding
the evaluator to find that out. -/
macro "em_step" : tactic => `(tactic| with_reducible first
  | apply Closed.bind hP
  | intro _
  | exact Closed.pure hP _
  | exact Closed.throw hP _
  | exact closed_rtErr hP _ _
  | exact closed_liftE hP _
  | exact Closed.lookup hP _
  | exact Closed.assignVar hP _ _
  | exact Closed.declareVar hP _ _
  | exact Closed.getHasReturn hP
  | exact Closed.setHasReturn hP _
  | exact Closed.clearReturn hP
  | exact Closed.getReturnValue hP
  | exact Closed.setReturnValue hP _
  | exact Closed.lookupFnM hP _
  | exact Closed.echoLine hP _
  | exact Closed.allocateTrackedQubit hP _
  | exact Closed.ensureQubitActive hP _ _
  | exact Closed.resetQubit hP _ _
  | exact Closed.simGate hP _
  | exact Closed.simCx hP _ _
  | exact Closed.measureQubit hP _ _
  | apply Closed.withScope hP
  | apply Closed.withFrame hP
  | apply ite_ind
  | split)

theorem closed_declareParams : ∀ l, Q (declareParams l)
  | [] => hP.pure _
  | (prm, a) :: rest => by
    unfold declareParams
    exact hP.bind _ _ (hP.declareVar _ _) (fun _ => closed_declareParams rest)

theorem closed_applyBuiltin (name : String) (argv : List Value) (p : Parse.P) : Q (applyBuiltin name argv p) := by
  obtain h | ⟨m, h, rfl | ⟨op, _, rfl, _⟩⟩ := applyBuiltin_eq name argv p <;> rw [h]
  · exact hP.bind _ _ (hP.ensureQubitActive _ _) fun _ => hP.bind _ _ (hP.ensureQubitActive _ _) fun _ =>
      ite_ind _ (closed_rtErr hP _ _) (hP.simCx _ _)
  · exact hP.bind _ _ (hP.ensureQubitActive _ _) fun _ => closed_rtErr hP _ _
  · exact hP.bind _ _ (hP.ensureQubitActive _ _) fun _ => hP.simGate _

theorem closed_allocArray (name : String) : ∀ n acc, Q (allocArray name n acc)
  | 0, acc => hP.pure _
  | n + 1, acc => by
    unfold allocArray
    exact hP.bind _ _ (hP.allocateTrackedQubit _) (fun q => closed_allocArray name n _)

theorem closed_measureAll (p : Parse.P) : ∀ qs, Q (measureAll p qs)
  | [] => hP.pure _
  | q :: rest => by
    unfold measureAll
    exact hP.bind _ _ (hP.measureQubit _ _) (fun _ => closed_measureAll p rest)

theorem closed_fillDefault (name : String) (v : Value) (n : Nat) : Q (fillDefault name v n) := by
  unfold fillDefault
  split <;> first
    | exact hP.pure _
    | exact hP.bind _ _ (closed_allocArray hP name n []) (fun _ => hP.pure _)

theorem closed_declDefault (ev : Expr → EM Value) (hev : ∀ e, Q (ev e)) (name : String) (ty : Ty) (noInit : Bool)
    (p : Parse.P) : Q (declDefault ev name ty noInit p) := by
  unfold declDefault
  dsimp only
  repeat' with_reducible first
    | exact hev _
    | exact closed_fillDefault hP _ _ _
    | em_step

theorem closed_declInit (ev : Expr → EM Value) (hev : ∀ e, Q (ev e))
    (evTyped : String → List Expr → Value → EM Value) (hty : ∀ a b c, Q (evTyped a b c))
    (ty : Ty) (init : Option Expr) (arraySize : Int) (v0 : Value) (p : Parse.P) :
    Q (declInit ev evTyped ty init arraySize v0 p) := by
  unfold declInit
  repeat' with_reducible first
    | exact hev _
    | exact hty _ _ _
    | em_step

/-- **Induction principle.**  A predicate that contains the primitives and is closed under `pure`, `bind`, `throw`
and the two brackets holds of everything the evaluator does. -/
theorem closed_all : ∀ fuel : Nat,
    (∀ e, Q (eval fuel e)) ∧
    (∀ first rest acc, Q (evalUntypedRest fuel first rest acc)) ∧
    (∀ args, Q (evalArgs fuel args)) ∧
    (∀ elem els acc, Q (evalTypedElems fuel elem els acc)) ∧
    (∀ fn args, Q (call fuel fn args)) ∧
    (∀ stmts, Q (execSeq fuel stmts)) ∧
    (∀ c inc body, Q (forLoop fuel c inc body)) ∧
    (∀ c body, Q (whileLoop fuel c body)) ∧
    (∀ s, Q (exec fuel s)) := by
  intro fuel
  induction fuel with
  | zero =>
    refine ⟨?_, ?_, ?_, ?_, ?_, ?_, ?_, ?_, ?_⟩ <;> intros
    · unfold eval; exact hP.throw _
    · unfold evalUntypedRest; exact hP.throw _
    · unfold evalArgs; exact hP.throw _
    · unfold evalTypedElems; exact hP.throw _
    · unfold call; exact hP.throw _
    · unfold execSeq; exact hP.throw _
    · unfold forLoop; exact hP.throw _
    · unfold whileLoop; exact hP.throw _
    · unfold exec; exact hP.throw _
  | succ fuel ih =>
    obtain ⟨ihEval, ihRest, ihArgs, ihTyped, ihCall, ihSeq, ihFor, ihWhile, ihExec⟩ := ih
    refine ⟨?_, ?_, ?_, ?_, ?_, ?_, ?_, ?_, ?_⟩
    · intro e
      unfold eval
      repeat' with_reducible first
        | exact ihEval _ | exact ihRest _ _ _ | exact ihArgs _ | exact ihCall _ _
        | exact closed_applyBuiltin hP _ _ _
        | em_step
    · intro first rest acc
      unfold evalUntypedRest
      repeat' with_reducible first
        | exact ihEval _ | exact ihRest _ _ _
        | em_step
    · intro args
      unfold evalArgs
      repeat' with_reducible first
        | exact ihEval _ | exact ihArgs _
        | em_step
    · intro elem els acc
      unfold evalTypedElems
      repeat' with_reducible first
        | exact ihEval _ | exact ihTyped _ _ _
        | em_step
    · intro fn args
      unfold call
      repeat' with_reducible first
        | exact ihSeq _ | exact ihExec _
        | exact closed_declareParams hP _
        | em_step
    · intro stmts
      unfold execSeq
      repeat' with_reducible first
        | exact ihSeq _ | exact ihExec _
        | em_step
    · intro c inc body
      unfold forLoop
      repeat' with_reducible first
        | exact ihEval _ | exact ihExec _ | exact ihFor _ _ _
        | em_step
    · intro c body
      unfold whileLoop
      repeat' with_reducible first
        | exact ihEval _ | exact ihExec _ | exact ihWhile _ _
        | em_step
    · intro s
      unfold exec
      repeat' with_reducible first
        | exact ihEval _ | exact ihExec _ | exact ihSeq _ | exact ihFor _ _ _ | exact ihWhile _ _
        | exact closed_declDefault hP _ ihEval _ _ _ _
        | exact closed_declInit hP _ ihEval _ ihTyped _ _ _ _ _
        | exact closed_measureAll hP _ _
        | em_step

theorem closed_eval (fuel : Nat) (e : Expr) : Q (eval fuel e) := (closed_all hP fuel).1 e
theorem closed_call (fuel : Nat) (fn : FuncDecl) (args : List Value) : Q (call fuel fn args) :=
  (closed_all hP fuel).2.2.2.2.1 fn args
theorem closed_execSeq (fuel : Nat) (ss : List Stmt) : Q (execSeq fuel ss) := (closed_all hP fuel).2.2.2.2.2.1 ss
theorem closed_exec (fuel : Nat) (s : Stmt) : Q (exec fuel s) := (closed_all hP fuel).2.2.2.2.2.2.2.2 s

end

end BlochVerif.Eval
