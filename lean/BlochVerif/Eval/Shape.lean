import BlochVerif.Eval.Hoare
/-!
# The register keeps its shape under every program (C03, whole-evaluator form)

Whatever a program does, the simulator's state vector has exactly `2 ^ n` amplitudes, where `n` is the number of
qubits the simulator has handed out, and `n` never decreases (released qubits are reset and reused, the register
is never shrunk, so an index that was inside the register stays inside it).
-/
namespace BlochVerif.Eval
open BlochVerif BlochVerif.Parse BlochVerif.Sim

section simFacts
variable {K R : Type}

/-- `Keeps a b`: if `a` has `2 ^ n` amplitudes so has `b`, and `b` has at least as many qubits -/
def Keeps (a b : Sim.State K R) : Prop := (a.amps.size = 2 ^ a.n → b.amps.size = 2 ^ b.n) ∧ a.n ≤ b.n

theorem Keeps.refl (a : Sim.State K R) : Keeps a a := ⟨id, Nat.le_refl _⟩

theorem Keeps.trans (a b c : Sim.State K R) (h1 : Keeps a b) (h2 : Keeps b c) : Keeps a c :=
  ⟨fun h => h2.1 (h1.1 h), Nat.le_trans h1.2 h2.2⟩

theorem keeps_of_fields {a b : Sim.State K R} (h1 : b.amps.size = a.amps.size) (h2 : b.n = a.n) : Keeps a b :=
  ⟨fun h => by rw [h1, h2]; exact h, by omega⟩

variable [Inhabited K]

theorem allocate_keeps (o : ROps K R) (st : Sim.State K R) : Keeps st (allocate o st).1 :=
  ⟨fun h => by rw [allocate_amps_size, allocate_n, h, Nat.pow_succ, Nat.mul_comm], by simp⟩

variable [Add K] [Mul K]

theorem stepOp_keeps (o : ROps K R) (st : Sim.State K R) (op : HOp R) : Keeps st (stepOp o st op) :=
  stepOp_cases o st (P := fun _ s _ => Keeps st s) (refused := fun _ _ => Keeps.refl st) (alloc := allocate_keeps o st)
    (gate := fun _ _ _ _ _ => keeps_of_fields (by simp) (by simp))
    (cx := fun _ _ _ _ _ => keeps_of_fields (by simp) (by simp))
    (measure := fun _ _ _ => keeps_of_fields (measureCore_amps_size ..) (measureCore_n ..))
    (reset := fun _ _ _ => keeps_of_fields (resetCore_amps_size ..) (resetCore_n ..)) op

end simFacts

/-- the state vector has one amplitude per basis state of the register -/
def Shaped (st : EState) : Prop := st.sim.amps.size = 2 ^ st.sim.n

theorem keeps_prims : PrimsHoare (fun _ => True) (fun s s' => Keeps s.sim s'.sim) :=
  .of_simRel Keeps Keeps.refl Keeps.trans (stepOp_keeps floatOps)

/-- **Every program leaves a `2 ^ n` state vector and never shrinks the register.** -/
theorem call_keeps_the_register_shaped (fuel : Nat) (fn : FuncDecl) (args : List Value) (st st' : EState) (v : Value)
    (hi : Shaped st) (h : (call fuel fn args).run st = .ok (v, st')) :
    st'.sim.amps.size = 2 ^ st'.sim.n ∧ st.sim.n ≤ st'.sim.n :=
  have hk : Keeps st.sim st'.sim := (hoare_call keeps_prims fuel fn args st trivial v st' h).2
  ⟨hk.1 hi, hk.2⟩

theorem exec_keeps_the_register_shaped (fuel : Nat) (s : Stmt) (st st' : EState)
    (hi : Shaped st) (h : (exec fuel s).run st = .ok ((), st')) :
    st'.sim.amps.size = 2 ^ st'.sim.n ∧ st.sim.n ≤ st'.sim.n :=
  have hk : Keeps st.sim st'.sim := (hoare_exec keeps_prims fuel s st trivial () st' h).2
  ⟨hk.1 hi, hk.2⟩

theorem shaped_start (prog : Program) (draws : List Float) (e l : Bool) : Shaped (startState prog draws e l) := by
  simp [Shaped, startState, Sim.State.init]

/-- the register a run hands back — whatever the program, the draws, the switches and the fuel — has `2 ^ n` amplitudes
(for a run that fails `execute` hands back the empty register it started from) -/
theorem execute_shaped (prog : Program) (draws : List Float) (e l : Bool) (fuel : Nat) :
    (execute prog draws e l fuel).sim.amps.size = 2 ^ (execute prog draws e l fuel).sim.n := by
  obtain ⟨st, hp, hs, -⟩ := execute_state prog draws e l fuel (shaped_start prog draws e l)
    fun fn v st h => (call_keeps_the_register_shaped fuel fn [] _ st v (shaped_start prog draws e l) h).1
  rw [hs]
  exact hp

end BlochVerif.Eval
