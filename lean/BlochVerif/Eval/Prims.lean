import BlochVerif.Eval.Model
import BlochVerif.Sim.Ops
/-!
# What each primitive of the evaluator model does, in closed form

First the run of `pure`, `bind`, `get`, `set`, `modify` and of a failing bind (the two tactics `run_norm` and `prim_cases`
sweep with them; the proofs below name their steps instead).  Then `run_*`: the result of running a primitive from a state `st`, as an explicit
`if`/`match` over `st` (the states these equations mention are named: `beginS`/`endS` around a scope, `enterS` for a call,
`frameLookup`), and `*_ok`: what a successful run implies, with the final state written as `{ st with … }` — so that a fact
about fields the update does not mention is closed by `rfl`.  The invariants of `Eval/*` and `Props/*` are proved from
these, not by unfolding the primitives again.  Last, `startState` and `execute_state`: what a whole run reports is read off
the state in which `main` ended.
-/
namespace BlochVerif.Eval
open BlochVerif BlochVerif.Parse BlochVerif.Sim

theorem run_pure {α : Type} (a : α) (st : EState) : (pure a : EM α).run st = .ok (a, st) := rfl

theorem run_throw {α : Type} (e : RErr) (st : EState) : (throw e : EM α).run st = .error e := rfl

/-- primed beside core's `StateT.run_bind`, whose right-hand side is a `>>=` of `Except` where this one has `Except.bind` -/
theorem run_bind' {α β : Type} (m : EM α) (f : α → EM β) (st : EState) :
    (m >>= f).run st = (m.run st).bind (fun r => (f r.1).run r.2) := rfl

theorem ebind_ok {ε α β : Type} (a : α) (f : α → Except ε β) : (Except.ok a : Except ε α).bind f = f a := rfl
theorem ebind_err {ε α β : Type} (e : ε) (f : α → Except ε β) : (Except.error e : Except ε α).bind f = .error e := rfl
theorem emap_ok {ε α β : Type} (a : α) (f : α → β) : (Except.ok a : Except ε α).map f = .ok (f a) := rfl
theorem emap_err {ε α β : Type} (e : ε) (f : α → β) : (Except.error e : Except ε α).map f = .error e := rfl

theorem run_bind_ok {α β : Type} {m : EM α} {f : α → EM β} {st st'' : EState} {b : β}
    (h : (m >>= f).run st = .ok (b, st'')) :
    ∃ a st', m.run st = .ok (a, st') ∧ (f a).run st' = .ok (b, st'') := by
  rw [run_bind'] at h
  cases hm : m.run st with
  | error e => rw [hm] at h; cases h
  | ok r => rw [hm] at h; exact ⟨r.1, r.2, rfl, h⟩

theorem run_bind_error {α β : Type} {m : EM α} {f : α → EM β} {st : EState} {e : RErr}
    (h : (m >>= f).run st = .error e) :
    m.run st = .error e ∨ ∃ a st', m.run st = .ok (a, st') ∧ (f a).run st' = .error e := by
  rw [run_bind'] at h
  cases hm : m.run st with
  | error e' => rw [hm, ebind_err] at h; cases h; exact .inl rfl
  | ok r => rw [hm, ebind_ok] at h; exact .inr ⟨r.1, r.2, rfl, h⟩

theorem run_modify (f : EState → EState) (st : EState) : (modify f : EM Unit).run st = .ok ((), f st) := rfl

theorem run_get (st : EState) : (get : EM EState).run st = .ok (st, st) := rfl

theorem run_set (s st : EState) : (set s : EM Unit).run st = .ok ((), s) := rfl

theorem run_ite {α : Type} (c : Prop) [Decidable c] (m1 m2 : EM α) (st : EState) :
    (if c then m1 else m2).run st = if c then m1.run st else m2.run st := by
  split <;> rfl

theorem run_rtErr {α : Type} (p : Parse.P) (msg : String) (st : EState) :
    (rtErr p msg : EM α).run st = .error (.runtime p.line p.col msg) := rfl
theorem run_simErr {α : Type} (e : Sim.SimErr) (st : EState) :
    (simErr e : EM α).run st = .error (.runtime 0 0 (match e with
      | .outOfRange _ => "qubit index out of range"
      | .measured _ => "cannot operate on measured qubit"
      | .sameOperand _ => "cx requires distinct control and target qubits")) := rfl

/-- normalise `h : m.run st = …` for a computation written with get/set/modify/if -/
macro "run_norm" "at" h:ident : tactic => `(tactic|
  simp only [run_bind', run_get, run_set, run_modify, run_pure, run_throw, run_ite, ebind_ok, ebind_err, run_rtErr,
    run_simErr] at $h:ident)

/-- split `h : prim.run st = .ok (a, st')` into its successful paths, each with the final state spelled out -/
macro "prim_cases" h:ident : tactic => `(tactic|
  repeat' (first | (run_norm at $h:ident) | (split at $h:ident) | (cases $h:ident)))

def frameLookup (frame : List Scope) (name : String) : Value :=
  match frame.findSome? (fun sc => (sc.find? (·.1 == name)).map (·.2.value)) with
  | some v => v
  | none => {}

theorem run_lookup (name : String) (st : EState) :
    (lookup name).run st = .ok (frameLookup (st.env.take st.frameDepth) name, st) := by
  unfold lookup frameLookup
  simp only [run_bind', run_get, ebind_ok]
  cases (List.take st.frameDepth st.env).findSome? (fun sc => (sc.find? (·.1 == name)).map (·.2.value)) <;> rfl

theorem run_declareVar (n : String) (e : VarEntry) (st : EState) :
    (declareVar n e).run st = .ok ((), { st with env := match st.env with
      | top :: rest => top.set n e :: rest
      | [] => [[(n, e)]] }) := by
  unfold declareVar
  rw [run_modify]
  cases st.env <;> rfl

theorem run_assignVar (n : String) (v : Value) (st : EState) :
    (assignVar n v).run st = match assignVar.go n v (st.env.take st.frameDepth) with
      | some env' => .ok ((), { st with env := env' ++ st.env.drop st.frameDepth })
      | none => (declareVar n { value := v, tracked := false, initialized := true }).run st := by
  unfold assignVar
  simp only [run_bind', run_get, ebind_ok]
  cases assignVar.go n v (List.take st.frameDepth st.env) <;> rfl

def beginS (st : EState) : EState := { st with env := [] :: st.env, frameDepth := st.frameDepth + 1 }

def endS (st : EState) : EState :=
  match st.env with
  | [] => st
  | top :: rest =>
    let tr := top.foldl (fun tr kv =>
      if !kv.2.tracked then tr else
      match trackedOutcome st.lastMeasurement kv.2.value with
      | some (pre, outcome) => bump tr (pre ++ kv.1) outcome
      | none => tr) st.tracked
    { st with env := rest, tracked := tr, frameDepth := st.frameDepth - 1 }

theorem beginScope_eq : beginScope = (modify beginS : EM Unit) := rfl
theorem endScope_eq : endScope = (modify endS : EM Unit) := rfl

theorem run_withScope {α : Type} (m : EM α) (st : EState) :
    (withScope m).run st = (m.run (beginS st)).bind (fun r => .ok (r.1, endS r.2)) := by
  unfold withScope
  rw [beginScope_eq, endScope_eq]
  simp only [run_bind', run_modify, ebind_ok]
  cases m.run (beginS st) <;> rfl

def enterS (st : EState) : EState := { st with env := [] :: st.env, frameDepth := 1 }

/-- A call frame is a scope opened at frame depth 0 — with everything the caller has below it — after which the caller's
frame depth and return flag are put back. -/
theorem run_withFrame {α : Type} (m : EM α) (st : EState) :
    (withFrame m).run st = ((withScope m).run { st with frameDepth := 0 }).map fun r =>
      (r.1, { r.2 with frameDepth := st.frameDepth, hasReturn := st.hasReturn }) := by
  unfold withFrame enterFrame getHasReturn leaveFrame setHasReturn
  rw [endScope_eq, run_withScope]
  simp only [run_bind', run_get, run_set, run_modify, run_pure, ebind_ok]
  -- `enterS st` is `beginS { st with frameDepth := 0 }` by `rfl`: the scope is opened at depth 0
  show (m.run (enterS st)).bind _ = ((m.run (enterS st)).bind _).map _
  cases m.run (enterS st) <;> rfl

theorem run_ensureQubitExists (q : Int) (p : P) (st : EState) :
    (ensureQubitExists q p).run st =
      if q < 0 ∨ (st.qubits.length : Int) ≤ q then .error (.runtime p.line p.col "invalid qubit reference")
      else .ok ((), st) := by
  unfold ensureQubitExists
  simp only [run_bind', run_get, ebind_ok, run_ite, run_rtErr, run_pure, Bool.or_eq_true, decide_eq_true_eq, ge_iff_le]

theorem run_ensureQubitActive (q : Int) (p : P) (st : EState) :
    (ensureQubitActive q p).run st =
      if q < 0 ∨ (st.qubits.length : Int) ≤ q then .error (.runtime p.line p.col "invalid qubit reference")
      else if (st.qubits.getD q.toNat default).measured then
        .error (.runtime p.line p.col "qubit has already been measured")
      else .ok ((), st) := by
  unfold ensureQubitActive
  rw [run_bind', run_ensureQubitExists]
  split
  · rfl
  · simp only [ebind_ok, run_bind', run_get, run_ite, run_rtErr, run_pure]

theorem run_nextDraw (st : EState) :
    nextDraw.run st = .ok (st.draws.headD 0.5, { st with draws := st.draws.tail }) := by
  unfold nextDraw
  rw [run_bind', run_get, ebind_ok]
  -- with the record taken apart both cases of `draws` are `rfl` (on `[]` the update `draws := [].tail` is no change)
  cases st with | mk sim env fd rv hr ee echo tr qs fq lm draws oc fn =>
  cases draws <;> rfl

theorem run_simGate (op : QOp Float) (st : EState) :
    (simGate op).run st = match Sim.gate1 floatOps st.sim op with
      | .ok s => .ok ((), { st with sim := s })
      | .error e => (simErr e).run st := by
  unfold simGate
  rw [run_bind', run_get, ebind_ok]
  cases Sim.gate1 floatOps st.sim op <;> rfl

theorem run_simCx (c t : Int) (st : EState) :
    (simCx c t).run st =
      if c < 0 ∨ t < 0 then (simErr (.outOfRange (if c < 0 then c else t))).run st
      else match Sim.cx st.sim c.toNat t.toNat with
        | .ok s => .ok ((), { st with sim := s })
        | .error e => (simErr e).run st := by
  unfold simCx
  simp only [run_bind', run_ite, run_get, ebind_ok, Bool.or_eq_true, decide_eq_true_eq]
  split
  · rfl
  · cases Sim.cx st.sim c.toNat t.toNat <;> rfl

theorem run_simReset (q : Int) (st : EState) :
    (simReset q).run st =
      if q < 0 then (simErr (.outOfRange q)).run st
      else match Sim.reset floatOps st.sim q.toNat (st.draws.headD 0.5) with
        | .ok (s, res) =>
          .ok ((), { st with draws := st.draws.tail, sim := s, outcomes := ('r', q.toNat, res) :: st.outcomes })
        | .error e => (simErr e).run st := by
  unfold simReset
  simp only [run_bind', run_get, ebind_ok, run_ite, run_nextDraw]
  split
  · rfl
  · cases Sim.reset floatOps st.sim q.toNat (st.draws.headD 0.5) <;> rfl

theorem run_simMeasure (q : Int) (st : EState) :
    (simMeasure q).run st =
      if q < 0 then (simErr (.outOfRange q)).run st
      else match Sim.ensureActive st.sim q.toNat with
        | .error e => (simErr e).run st
        | .ok _ => match Sim.measure floatOps st.sim q.toNat (st.draws.headD 0.5) with
          | .ok (s, res) =>
            .ok ((res : Int), { st with draws := st.draws.tail, sim := s, outcomes := ('m', q.toNat, res) :: st.outcomes })
          | .error e => (simErr e).run st := by
  unfold simMeasure
  simp only [run_bind', run_get, ebind_ok, run_ite]
  split
  · rfl
  · cases Sim.ensureActive st.sim q.toNat with
    | error e => rfl
    | ok u =>
      simp only [run_bind', run_nextDraw, ebind_ok, run_get]
      cases Sim.measure floatOps st.sim q.toNat (st.draws.headD 0.5) <;> rfl

theorem ensureQubitExists_ok {q : Int} {p : P} {st st' : EState} {a : Unit}
    (h : (ensureQubitExists q p).run st = .ok (a, st')) : st' = st ∧ 0 ≤ q ∧ q < st.qubits.length := by
  rw [run_ensureQubitExists] at h
  split at h
  · cases h
  · cases h; exact ⟨rfl, by omega, by omega⟩

theorem ensureQubitActive_ok {q : Int} {p : P} {st st' : EState} {a : Unit}
    (h : (ensureQubitActive q p).run st = .ok (a, st')) :
    st' = st ∧ 0 ≤ q ∧ q < st.qubits.length ∧ (st.qubits.getD q.toNat default).measured = false := by
  rw [run_ensureQubitActive] at h
  split at h
  · cases h
  · split at h
    · cases h
    · cases h; exact ⟨rfl, by omega, by omega, Bool.eq_false_iff.mpr ‹_›⟩

theorem simGate_ok {op : QOp Float} {st st' : EState} {a : Unit} (h : (simGate op).run st = .ok (a, st')) :
    ∃ s, Sim.gate1 floatOps st.sim op = .ok s ∧ st' = { st with sim := s } := by
  rw [run_simGate] at h
  split at h
  · cases h; exact ⟨_, ‹_›, rfl⟩
  · cases h

theorem simCx_ok {c t : Int} {st st' : EState} {a : Unit} (h : (simCx c t).run st = .ok (a, st')) :
    0 ≤ c ∧ 0 ≤ t ∧ ∃ s, Sim.cx st.sim c.toNat t.toNat = .ok s ∧ st' = { st with sim := s } := by
  rw [run_simCx] at h
  split at h
  · cases h
  · split at h
    · cases h; exact ⟨by omega, by omega, _, ‹_›, rfl⟩
    · cases h

theorem simReset_ok {q : Int} {st st' : EState} {a : Unit} (h : (simReset q).run st = .ok (a, st')) :
    0 ≤ q ∧ ∃ s res, Sim.reset floatOps st.sim q.toNat (st.draws.headD 0.5) = .ok (s, res) ∧
      st' = { st with draws := st.draws.tail, sim := s, outcomes := ('r', q.toNat, res) :: st.outcomes } := by
  rw [run_simReset] at h
  split at h
  · cases h
  · split at h
    · cases h; exact ⟨by omega, _, _, ‹_›, rfl⟩
    · cases h

theorem simMeasure_ok {q : Int} {st st' : EState} {bit : Int} (h : (simMeasure q).run st = .ok (bit, st')) :
    0 ≤ q ∧ ∃ s res, Sim.measure floatOps st.sim q.toNat (st.draws.headD 0.5) = .ok (s, res) ∧ bit = res ∧
      st' = { st with draws := st.draws.tail, sim := s, outcomes := ('m', q.toNat, res) :: st.outcomes } := by
  rw [run_simMeasure] at h
  split at h
  · cases h
  · split at h
    · cases h
    · split at h
      · cases h; exact ⟨by omega, _, _, ‹_›, rfl, rfl⟩
      · cases h

/-! The three book-keeping updates on an index the guard has let through (`0 ≤ q`, `q` inside the qubit table). -/

theorem run_markMeasured {q : Int} {st : EState} (h0 : 0 ≤ q) (hl : q < st.qubits.length) :
    (markMeasured q).run st = .ok ((), { st with
      qubits := st.qubits.set q.toNat { (st.qubits.getD q.toNat default) with measured := true } }) := by
  unfold markMeasured
  rw [run_modify, if_pos (by simp [h0, hl])]
  rfl

theorem run_setLastMeasurement {q : Int} (b : Int) (st : EState) (h0 : 0 ≤ q) :
    (setLastMeasurement q b).run st = .ok ((), { st with
      lastMeasurement := if q < st.lastMeasurement.length then st.lastMeasurement.set q.toNat b
        else st.lastMeasurement }) := by
  unfold setLastMeasurement
  rw [run_modify]
  by_cases hl : q < st.lastMeasurement.length
  · rw [if_pos (by simp [h0, hl]), if_pos hl]; rfl
  · rw [if_neg (by simp [hl]), if_neg hl]

theorem run_unmarkMeasured {q : Int} {st : EState} (h0 : 0 ≤ q) (hl : q < st.qubits.length) :
    (unmarkMeasured q).run st = .ok ((), { st with
      qubits := st.qubits.set q.toNat { (st.qubits.getD q.toNat default) with measured := false },
      lastMeasurement := if q < st.lastMeasurement.length then st.lastMeasurement.set q.toNat (-1)
        else st.lastMeasurement }) := by
  unfold unmarkMeasured
  rw [run_modify]
  simp only [h0, hl, decide_true, Bool.true_and, decide_eq_true_eq, if_true, setNth]

theorem measureQubit_ok {q : Int} {p : P} {st st' : EState} {v : Value}
    (h : (measureQubit q p).run st = .ok (v, st')) :
    0 ≤ q ∧ q < st.qubits.length ∧ (st.qubits.getD q.toNat default).measured = false ∧
    ∃ s res, Sim.measure floatOps st.sim q.toNat (st.draws.headD 0.5) = .ok (s, res) ∧ v = mkBit res ∧
      st' = { st with
        draws := st.draws.tail, sim := s, outcomes := ('m', q.toNat, res) :: st.outcomes,
        qubits := st.qubits.set q.toNat { (st.qubits.getD q.toNat default) with measured := true },
        lastMeasurement := if q < st.lastMeasurement.length then st.lastMeasurement.set q.toNat res
          else st.lastMeasurement } := by
  unfold measureQubit at h
  obtain ⟨_, _, h1, k1⟩ := run_bind_ok h
  obtain ⟨rfl, h0, hl, hm⟩ := ensureQubitActive_ok h1
  obtain ⟨bit, _, h2, k2⟩ := run_bind_ok k1
  obtain ⟨_, s, res, hs, rfl, rfl⟩ := simMeasure_ok h2
  refine ⟨h0, hl, hm, s, res, hs, ?_⟩
  -- `by exact`: the state is to come from `k2` (it is `st` with three fields updated), not from the type of `hl`
  rw [run_bind', run_markMeasured h0 (by exact hl), ebind_ok, run_bind', run_setLastMeasurement _ _ h0, ebind_ok,
    run_pure] at k2
  cases k2
  exact ⟨rfl, rfl⟩

theorem resetQubit_ok {q : Int} {p : P} {st st' : EState} {a : Unit}
    (h : (resetQubit q p).run st = .ok (a, st')) :
    0 ≤ q ∧ q < st.qubits.length ∧
    ∃ s res, Sim.reset floatOps st.sim q.toNat (st.draws.headD 0.5) = .ok (s, res) ∧
      st' = { st with
        draws := st.draws.tail, sim := s, outcomes := ('r', q.toNat, res) :: st.outcomes,
        qubits := st.qubits.set q.toNat { (st.qubits.getD q.toNat default) with measured := false },
        lastMeasurement := if q < st.lastMeasurement.length then st.lastMeasurement.set q.toNat (-1)
          else st.lastMeasurement } := by
  unfold resetQubit at h
  obtain ⟨_, _, h1, k1⟩ := run_bind_ok h
  obtain ⟨rfl, h0, hl⟩ := ensureQubitExists_ok h1
  obtain ⟨_, _, h2, k2⟩ := run_bind_ok k1
  obtain ⟨_, s, res, hs, rfl⟩ := simReset_ok h2
  refine ⟨h0, hl, s, res, hs, ?_⟩
  rw [run_unmarkMeasured h0 (by exact hl)] at k2
  cases k2
  rfl

/-- A released index is reset and reused, otherwise the simulator hands out a fresh one.  The new entry of the qubit
table is spelled out for the case that the table is as long as the register (which `Agree` guarantees). -/
theorem allocateTrackedQubit_ok {name : String} {st st' : EState} {a : Int}
    (h : (allocateTrackedQubit name).run st = .ok (a, st')) :
    (∃ rest s res qs lm, st.freeQubits = a :: rest ∧ 0 ≤ a ∧
        Sim.reset floatOps st.sim a.toNat (st.draws.headD 0.5) = .ok (s, res) ∧
        (a < st.qubits.length → qs = st.qubits.set a.toNat { name := name, measured := false }) ∧
        st' = { st with freeQubits := rest, draws := st.draws.tail, sim := s,
                        outcomes := ('r', a.toNat, res) :: st.outcomes, qubits := qs, lastMeasurement := lm }) ∨
    (∃ qs lm, st.freeQubits = [] ∧ a = st.sim.n ∧
        (st.qubits.length = st.sim.n → qs = st.qubits ++ [{ name := name, measured := false }]) ∧
        st' = { st with sim := (Sim.allocate floatOps st.sim).1, qubits := qs, lastMeasurement := lm }) := by
  unfold allocateTrackedQubit at h
  rw [run_bind', run_get, ebind_ok] at h
  dsimp only at h
  split at h
  · rename_i idx rest hf
    left
    rw [run_bind', run_set, ebind_ok] at h
    obtain ⟨_, _, h1, k1⟩ := run_bind_ok h
    obtain ⟨h0, s, res, hs, rfl⟩ := simReset_ok h1
    unfold unmarkMeasured at k1
    simp only [run_bind', run_modify, ebind_ok, run_pure] at k1
    cases k1
    refine ⟨rest, s, res, _, _, hf, h0, hs, fun hl => ?_, rfl⟩
    have hc : (decide (a ≥ 0) && decide (a < (st.qubits.length : Int))) = true := by simp [h0, hl]
    simp only [hc, if_true, setNth, List.length_set, ge_iff_le, Int.not_le.mpr hl, if_false, List.set_set]
  · rename_i hf
    right
    rw [run_bind', run_set, ebind_ok, run_pure] at h
    cases h
    refine ⟨_, _, hf, rfl, fun hl => ?_, rfl⟩
    have hn : ¬ (((Sim.allocate floatOps st.sim).2 : Int) ≥
        ((st.qubits ++ [({ name := name, measured := false } : QubitInfo)]).length : Int)) := by
      rw [Sim.allocate_index, List.length_append, hl, List.length_singleton]; omega
    rw [if_neg hn, Sim.allocate_index, setNth, Int.toNat_natCast, ← hl, List.set_append_right _ _ (Nat.le_refl _)]
    simp

/-- the state in which `execute` starts `main` -/
def startState (prog : Program) (draws : List Float) (echoEnabled logOps : Bool) : EState :=
  { sim := Sim.State.init Sim.floatOps logOps, draws := draws, echoEnabled := echoEnabled,
    lookupFn := fun n => prog.functions.find? (·.name == n) }

/-- What a run hands back is read off the state in which the call of `main` ended — or off the start state: when there
is no `main`, when the program has classes, and, for the components an error discards, when the run failed.  So what
holds of the start state and after every successful call from it holds of the state a run reports. -/
theorem execute_state (prog : Program) (draws : List Float) (e l : Bool) (fuel : Nat) {P : EState → Prop}
    (h0 : P (startState prog draws e l))
    (hcall : ∀ fn v st, (call fuel fn []).run (startState prog draws e l) = .ok (v, st) → P st) :
    ∃ st, P st ∧ (execute prog draws e l fuel).sim = st.sim ∧ (execute prog draws e l fuel).tracked = st.tracked ∧
      (execute prog draws e l fuel).echo = st.echo.reverse := by
  unfold execute
  dsimp only
  split
  · exact ⟨_, h0, rfl, rfl, rfl⟩
  · split
    · rename_i st hrun
      split at hrun
      · obtain ⟨v, _, h1, h2⟩ := run_bind_ok hrun
        cases h2
        exact ⟨st, hcall _ v st h1, rfl, rfl, rfl⟩
      · cases hrun
        exact ⟨_, h0, rfl, rfl, rfl⟩
    · exact ⟨_, h0, rfl, rfl, rfl⟩

end BlochVerif.Eval
