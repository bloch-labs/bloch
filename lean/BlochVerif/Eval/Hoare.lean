import BlochVerif.Eval.Closed
import BlochVerif.Eval.Prims
/-!
# State invariants and step relations for every program

`Hoare Inv R m`: started in a state satisfying `Inv`, a successful run of `m` ends in a state satisfying `Inv`
and related to the start by `R` (reflexive, transitive).  `Closed.ofHoare` reduces "holds for every expression,
statement and call" to the primitives.  Failed runs are not spoken of, and need not be: the state of a failed run is
gone (`EM` is `StateT` over `Except`), and `execute` reports the start state for it.
-/
namespace BlochVerif.Eval
open BlochVerif BlochVerif.Parse

def Hoare (Inv : EState → Prop) (R : EState → EState → Prop) {α : Type} (m : EM α) : Prop :=
  ∀ st, Inv st → ∀ a st', m.run st = .ok (a, st') → Inv st' ∧ R st st'

/-- what has to be checked by hand: the primitives -/
structure PrimsHoare (Inv : EState → Prop) (R : EState → EState → Prop) : Prop where
  refl : ∀ st, R st st
  trans : ∀ a b c, R a b → R b c → R a c
  lookup : ∀ n, Hoare Inv R (lookup n)
  assignVar : ∀ n v, Hoare Inv R (assignVar n v)
  declareVar : ∀ n e, Hoare Inv R (declareVar n e)
  beginScope : Hoare Inv R beginScope
  endScope : Hoare Inv R endScope
  enterFrame : Hoare Inv R enterFrame
  leaveFrame : ∀ d, Hoare Inv R (leaveFrame d)
  getHasReturn : Hoare Inv R getHasReturn
  setHasReturn : ∀ b, Hoare Inv R (setHasReturn b)
  clearReturn : Hoare Inv R clearReturn
  getReturnValue : Hoare Inv R getReturnValue
  setReturnValue : ∀ v, Hoare Inv R (setReturnValue v)
  lookupFnM : ∀ n, Hoare Inv R (lookupFnM n)
  echoLine : ∀ l, Hoare Inv R (echoLine l)
  allocateTrackedQubit : ∀ n, Hoare Inv R (allocateTrackedQubit n)
  ensureQubitActive : ∀ i p, Hoare Inv R (ensureQubitActive i p)
  resetQubit : ∀ q p, Hoare Inv R (resetQubit q p)
  simGate : ∀ op, Hoare Inv R (simGate op)
  simCx : ∀ c t, Hoare Inv R (simCx c t)
  measureQubit : ∀ q p, Hoare Inv R (measureQubit q p)

section
variable {Inv : EState → Prop} {R : EState → EState → Prop}

theorem Hoare.of_run {α : Type} {m : EM α} (f : EState → α) (g : EState → EState)
    (hm : ∀ st, m.run st = .ok (f st, g st)) (hg : ∀ st, Inv st → Inv (g st) ∧ R st (g st)) : Hoare Inv R m := by
  intro st hi a st' h
  rw [hm] at h
  cases h
  exact hg st hi

theorem Hoare.pure (hr : ∀ st, R st st) {α : Type} (a : α) : Hoare Inv R (pure a : EM α) :=
  .of_run (fun _ => a) id (fun _ => rfl) fun st hi => ⟨hi, hr st⟩

theorem Hoare.ofRead (hr : ∀ st, R st st) {α : Type} (f : EState → α) :
    Hoare Inv R (do return f (← get) : EM α) :=
  .of_run f id (fun _ => rfl) fun st hi => ⟨hi, hr st⟩

theorem Hoare.throw {α : Type} (e : RErr) : Hoare Inv R (throw e : EM α) :=
  fun _ _ _ _ h => by cases h

theorem Hoare.bind (ht : ∀ a b c, R a b → R b c → R a c) {α β : Type} (m : EM α) (f : α → EM β)
    (hm : Hoare Inv R m) (hf : ∀ a, Hoare Inv R (f a)) : Hoare Inv R (m >>= f) := by
  intro st hi b st'' h
  obtain ⟨a, st', h1, h2⟩ := run_bind_ok h
  obtain ⟨hi', hr1⟩ := hm st hi a st' h1
  obtain ⟨hi'', hr2⟩ := hf a st' hi' b st'' h2
  exact ⟨hi'', ht _ _ _ hr1 hr2⟩

theorem Closed.ofHoare (h : PrimsHoare Inv R) : Closed (fun {α} (m : EM α) => Hoare Inv R m) where
  pure := fun a => Hoare.pure h.refl a
  bind := fun m f hm hf => Hoare.bind h.trans m f hm hf
  throw := fun e => Hoare.throw e
  lookup := h.lookup
  assignVar := h.assignVar
  declareVar := h.declareVar
  withScope := fun m hm => by
    unfold Eval.withScope
    exact Hoare.bind h.trans _ _ h.beginScope (fun _ => Hoare.bind h.trans _ _ hm (fun r =>
      Hoare.bind h.trans _ _ h.endScope (fun _ => Hoare.pure h.refl r)))
  withFrame := fun m hm => by
    unfold Eval.withFrame
    exact Hoare.bind h.trans _ _ h.enterFrame (fun saved => Hoare.bind h.trans _ _ h.getHasReturn (fun prev =>
      Hoare.bind h.trans _ _ hm (fun r => Hoare.bind h.trans _ _ h.endScope (fun _ =>
        Hoare.bind h.trans _ _ (h.leaveFrame saved) (fun _ => Hoare.bind h.trans _ _ (h.setHasReturn prev)
          (fun _ => Hoare.pure h.refl r))))))
  getHasReturn := h.getHasReturn
  setHasReturn := h.setHasReturn
  clearReturn := h.clearReturn
  getReturnValue := h.getReturnValue
  setReturnValue := h.setReturnValue
  lookupFnM := h.lookupFnM
  echoLine := h.echoLine
  allocateTrackedQubit := h.allocateTrackedQubit
  ensureQubitActive := h.ensureQubitActive
  resetQubit := h.resetQubit
  simGate := h.simGate
  simCx := h.simCx
  measureQubit := h.measureQubit

/-- **Every program preserves what the primitives preserve.** -/
theorem hoare_call (h : PrimsHoare Inv R) (fuel : Nat) (fn : FuncDecl) (args : List Value) :
    Hoare Inv R (call fuel fn args) :=
  closed_call (Closed.ofHoare h) fuel fn args

theorem hoare_exec (h : PrimsHoare Inv R) (fuel : Nat) (s : Stmt) : Hoare Inv R (exec fuel s) :=
  closed_exec (Closed.ofHoare h) fuel s

theorem hoare_eval (h : PrimsHoare Inv R) (fuel : Nat) (e : Expr) : Hoare Inv R (eval fuel e) :=
  closed_eval (Closed.ofHoare h) fuel e

/-- An invariant and a step relation that do not look at the environment, the frame depth or the return slot hold
across `lookup`, `assignVar`, `declareVar`, the entry and exit of frames, the return-slot accessors, `lookupFnM` and the
guard: what is left to check is `endScope`, `echoLine` and the primitives that call the simulator. -/
theorem PrimsHoare.of_frame (refl : ∀ st, R st st) (trans : ∀ a b c, R a b → R b c → R a c)
    (frame : ∀ st env fd rv hr, Inv st →
      Inv { st with env := env, frameDepth := fd, returnValue := rv, hasReturn := hr } ∧
      R st { st with env := env, frameDepth := fd, returnValue := rv, hasReturn := hr })
    (hend : Hoare Inv R Eval.endScope) (hecho : ∀ l, Hoare Inv R (Eval.echoLine l))
    (halloc : ∀ n, Hoare Inv R (Eval.allocateTrackedQubit n)) (hreset : ∀ q p, Hoare Inv R (Eval.resetQubit q p))
    (hgate : ∀ op, Hoare Inv R (Eval.simGate op)) (hcx : ∀ c t, Hoare Inv R (Eval.simCx c t))
    (hmeasure : ∀ q p, Hoare Inv R (Eval.measureQubit q p)) :
    PrimsHoare Inv R where
  refl := refl
  trans := trans
  lookup := fun n => Hoare.of_run _ id (run_lookup n) (fun st hi => ⟨hi, refl st⟩)
  assignVar := fun n v st hi a st' h => by
    rw [run_assignVar] at h
    split at h
    · cases h; exact frame st _ _ _ _ hi
    · rw [run_declareVar] at h; cases h; exact frame st _ _ _ _ hi
  declareVar := fun n e => Hoare.of_run _ _ (run_declareVar n e) (fun st hi => frame st _ _ _ _ hi)
  beginScope := Hoare.of_run _ beginS (fun _ => rfl) (fun st hi => frame st _ _ _ _ hi)
  endScope := hend
  enterFrame := Hoare.of_run _ enterS (fun _ => rfl) (fun st hi => frame st _ _ _ _ hi)
  leaveFrame := fun d => Hoare.of_run _ _ (fun _ => rfl) (fun st hi => frame st _ d _ _ hi)
  getHasReturn := Hoare.ofRead refl _
  setHasReturn := fun b => Hoare.of_run _ _ (fun _ => rfl) (fun st hi => frame st _ _ _ b hi)
  clearReturn := Hoare.of_run _ _ (fun _ => rfl) (fun st hi => frame st _ _ {} false hi)
  getReturnValue := Hoare.ofRead refl _
  setReturnValue := fun v => Hoare.of_run _ _ (fun _ => rfl) (fun st hi => frame st _ _ v _ hi)
  lookupFnM := fun n => Hoare.ofRead refl _
  echoLine := hecho
  allocateTrackedQubit := halloc
  ensureQubitActive := fun i p st hi a st' h => by
    obtain ⟨rfl, _⟩ := ensureQubitActive_ok h
    exact ⟨hi, refl _⟩
  resetQubit := hreset
  simGate := hgate
  simCx := hcx
  measureQubit := hmeasure

theorem Hoare.endScope_of_frame (refl : ∀ st, R st st)
    (frame : ∀ st env fd tr, Inv st →
      Inv { st with env := env, tracked := tr, frameDepth := fd } ∧
      R st { st with env := env, tracked := tr, frameDepth := fd }) : Hoare Inv R endScope :=
  Hoare.of_run _ endS (fun _ => rfl) (fun st hi => by
    unfold endS
    split
    · exact ⟨hi, refl st⟩
    · exact frame st _ _ _ hi)

theorem Hoare.echoLine_of_frame (refl : ∀ st, R st st)
    (frame : ∀ st echo, Inv st → Inv { st with echo := echo } ∧ R st { st with echo := echo }) (l : String) :
    Hoare Inv R (echoLine l) :=
  Hoare.of_run _ _ (fun _ => rfl) (fun st hi => by
    split
    · exact frame st _ hi
    · exact ⟨hi, refl st⟩)

end

open Sim in
/-- What a quantum primitive can do: one simulator operation (`stepOp`, which is the state a successful `gate1`, `cx`,
`measure` or `reset` returns), any change to the qubit book, and either no draw and no outcome record or one of each.
An invariant and a step relation that hold across the environment primitives (`of_frame`) and across these two kinds of
update hold across every primitive. -/
theorem PrimsHoare.of_quantum {Inv : EState → Prop} {R : EState → EState → Prop}
    (refl : ∀ st, R st st) (trans : ∀ a b c, R a b → R b c → R a c)
    (frame : ∀ st env fd rv hr, Inv st →
      Inv { st with env := env, frameDepth := fd, returnValue := rv, hasReturn := hr } ∧
      R st { st with env := env, frameDepth := fd, returnValue := rv, hasReturn := hr })
    (hend : Hoare Inv R Eval.endScope) (hecho : ∀ l, Hoare Inv R (Eval.echoLine l))
    (quiet : ∀ st op qs fq lm, Inv st →
      Inv { st with sim := stepOp floatOps st.sim op, qubits := qs, freeQubits := fq, lastMeasurement := lm } ∧
      R st { st with sim := stepOp floatOps st.sim op, qubits := qs, freeQubits := fq, lastMeasurement := lm })
    (draw : ∀ st op x qs fq lm, Inv st →
      Inv { st with sim := stepOp floatOps st.sim op, draws := st.draws.tail, outcomes := x :: st.outcomes,
                    qubits := qs, freeQubits := fq, lastMeasurement := lm } ∧
      R st { st with sim := stepOp floatOps st.sim op, draws := st.draws.tail, outcomes := x :: st.outcomes,
                     qubits := qs, freeQubits := fq, lastMeasurement := lm }) :
    PrimsHoare Inv R :=
  .of_frame refl trans frame hend hecho
    (fun n st hi a st' h => by
      obtain ⟨_, s, res, _, _, _, _, hs, _, rfl⟩ | ⟨_, _, _, _, _, rfl⟩ := allocateTrackedQubit_ok h
      · obtain rfl : stepOp floatOps st.sim (.reset a.toNat (st.draws.headD 0.5)) = s := by simp only [stepOp, hs]
        exact draw st _ _ _ _ _ hi
      · exact quiet st .alloc _ _ _ hi)
    (fun q p st hi a st' h => by
      obtain ⟨_, _, s, res, hs, rfl⟩ := resetQubit_ok h
      obtain rfl : stepOp floatOps st.sim (.reset q.toNat (st.draws.headD 0.5)) = s := by simp only [stepOp, hs]
      exact draw st _ _ _ _ _ hi)
    (fun op st hi a st' h => by
      obtain ⟨s, hs, rfl⟩ := simGate_ok h
      obtain rfl : stepOp floatOps st.sim (.gate op) = s := by simp only [stepOp, hs]
      exact quiet st _ _ _ _ hi)
    (fun c t st hi a st' h => by
      obtain ⟨_, _, s, hs, rfl⟩ := simCx_ok h
      obtain rfl : stepOp floatOps st.sim (.cx c.toNat t.toNat) = s := by simp only [stepOp, hs]
      exact quiet st _ _ _ _ hi)
    (fun q p st hi a st' h => by
      obtain ⟨_, _, _, s, res, hs, _, rfl⟩ := measureQubit_ok h
      obtain rfl : stepOp floatOps st.sim (.measure q.toNat (st.draws.headD 0.5)) = s := by simp only [stepOp, hs]
      exact draw st _ _ _ _ _ hi)

open Sim in
/-- A reflexive, transitive relation on simulator states that every simulator operation respects relates the simulator
component before and after every primitive, hence (`hoare_call`) before and after every program. -/
theorem PrimsHoare.of_simRel (r : State CF Float → State CF Float → Prop)
    (refl : ∀ a, r a a) (trans : ∀ a b c, r a b → r b c → r a c) (hstep : ∀ a op, r a (stepOp floatOps a op)) :
    PrimsHoare (fun _ => True) (fun s s' => r s.sim s'.sim) :=
  .of_quantum (fun s => refl s.sim) (fun a b c => trans a.sim b.sim c.sim)
    (fun st _ _ _ _ _ => ⟨trivial, refl st.sim⟩)
    (Hoare.endScope_of_frame (fun s => refl s.sim) (fun st _ _ _ _ => ⟨trivial, refl st.sim⟩))
    (Hoare.echoLine_of_frame (fun s => refl s.sim) fun st _ _ => ⟨trivial, refl st.sim⟩)
    (fun st op _ _ _ _ => ⟨trivial, hstep st.sim op⟩) (fun st op _ _ _ _ _ => ⟨trivial, hstep st.sim op⟩)

/-- The same for a relation that watches the function table, the echo switch, the echoed lines, the outcome records and
the draws: apart from `echoLine`, a primitive leaves all five alone or takes one draw and records one outcome. -/
theorem PrimsHoare.of_drawRel {R : EState → EState → Prop} (trans : ∀ a b c, R a b → R b c → R a c)
    (same : ∀ s s', s'.lookupFn = s.lookupFn → s'.echoEnabled = s.echoEnabled → s'.echo = s.echo →
      s'.outcomes = s.outcomes → s'.draws = s.draws → R s s')
    (draw : ∀ s s' x, s'.lookupFn = s.lookupFn → s'.echoEnabled = s.echoEnabled → s'.echo = s.echo →
      s'.outcomes = x :: s.outcomes → s'.draws = s.draws.tail → R s s')
    (hecho : ∀ l, Hoare (fun _ => True) R (Eval.echoLine l)) : PrimsHoare (fun _ => True) R :=
  have refl : ∀ s, R s s := fun s => same s s rfl rfl rfl rfl rfl
  .of_quantum refl trans
    (fun _ _ _ _ _ _ => ⟨trivial, same _ _ rfl rfl rfl rfl rfl⟩)
    (Hoare.endScope_of_frame refl fun _ _ _ _ _ => ⟨trivial, same _ _ rfl rfl rfl rfl rfl⟩)
    hecho
    (fun _ _ _ _ _ _ => ⟨trivial, same _ _ rfl rfl rfl rfl rfl⟩)
    (fun _ _ x _ _ _ _ => ⟨trivial, draw _ _ x rfl rfl rfl rfl rfl⟩)

end BlochVerif.Eval
