import BlochVerif.Eval.Hoare
/-!
# The operation log only grows (C05, whole-evaluator form)

Whatever a program does, the simulator's operation log — the source of the emitted OpenQASM — is only ever extended
at the end; the logging switch never changes.  (What is appended is the business of `Props/C05.lean`, simulator level.)
-/
namespace BlochVerif.Eval
open BlochVerif BlochVerif.Parse BlochVerif.Sim

def Grows {K R : Type} (a b : Sim.State K R) : Prop := (∃ suf, b.ops = a.ops ++ suf) ∧ b.logOps = a.logOps

section simFacts
variable {K R : Type}

theorem Grows.refl (a : Sim.State K R) : Grows a a := ⟨⟨[], by simp⟩, rfl⟩

theorem Grows.trans (a b c : Sim.State K R) (h1 : Grows a b) (h2 : Grows b c) : Grows a c := by
  obtain ⟨⟨s1, e1⟩, l1⟩ := h1
  obtain ⟨⟨s2, e2⟩, l2⟩ := h2
  exact ⟨⟨s1 ++ s2, by rw [e2, e1, List.append_assoc]⟩, l2.trans l1⟩

theorem grows_of_ops {a b : Sim.State K R} (l : List (QOp R))
    (h1 : b.ops = if a.logOps then a.ops ++ l else a.ops) (h2 : b.logOps = a.logOps) : Grows a b :=
  ⟨⟨if a.logOps then l else [], by rw [h1]; split <;> simp⟩, h2⟩

theorem grows_log (st : Sim.State K R) (op : QOp R) : Grows st (st.log op) :=
  grows_of_ops [op] (log_ops st op) (log_logOps st op)

variable [Inhabited K] [Add K] [Mul K]

theorem allocate_grows (o : ROps K R) (st : Sim.State K R) : Grows st (allocate o st).1 := ⟨⟨[], by simp⟩, rfl⟩

theorem stepOp_grows (o : ROps K R) (st : Sim.State K R) (op : HOp R) : Grows st (stepOp o st op) :=
  stepOp_cases o st (P := fun _ s _ => Grows st s) (refused := fun _ _ => Grows.refl st) (alloc := allocate_grows o st)
    (gate := fun g _ _ _ _ => grows_log { st with amps := _ } g)
    (cx := fun c t _ _ _ => grows_log { st with amps := _ } (.cx c t))
    (measure := fun q r _ => grows_of_ops _ (measureCore_ops o st q r) (measureCore_logOps o st q r))
    (reset := fun q r _ => grows_of_ops _ (resetCore_ops o st q r) (resetCore_logOps o st q r)) op

end simFacts

def LogGrows (s s' : EState) : Prop := Grows s.sim s'.sim

abbrev Lg {α : Type} (m : EM α) : Prop := Hoare (fun _ => True) LogGrows m

theorem loggrows_prims : PrimsHoare (fun _ => True) LogGrows :=
  .of_simRel Grows Grows.refl Grows.trans (stepOp_grows floatOps)

theorem call_only_extends_the_log (fuel : Nat) (fn : FuncDecl) (args : List Value) (st st' : EState) (v : Value)
    (h : (call fuel fn args).run st = .ok (v, st')) : LogGrows st st' :=
  (hoare_call loggrows_prims fuel fn args st trivial v st' h).2

end BlochVerif.Eval
