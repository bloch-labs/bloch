import BlochVerif.Eval.Hoare
import BlochVerif.Sim.SpecCore
/-!
# The evaluator's measured flags are the simulator's (C06, whole-evaluator form)

`Agree st`: the evaluator knows exactly the simulator's qubits, and for each of them its own "measured" flag equals
the simulator's.  Every primitive preserves it, hence (induction principle) so does every call and every statement that ends
successfully: it holds wherever a successful step of a run has ended.
Consequence: the guard `ensureQubitActive` — by index, so the same through every access path — refuses exactly the
operations the simulator itself would refuse, and it does so first, at the position of the call.
-/
namespace BlochVerif.Eval
open BlochVerif BlochVerif.Parse BlochVerif.Sim

theorem list_set_getD {α : Type} [Inhabited α] (l : List α) (q i : Nat) (v : α) (hq : q < l.length) :
    (l.set q v).getD i default = if i = q then v else l.getD i default := by
  simp only [List.getD_eq_getElem?_getD, List.getElem?_set]
  by_cases h : i = q
  · subst h; simp [hq]
  · have h' : ¬ q = i := fun e => h e.symm
    simp [h, h']

theorem arr_push_get {α : Type} [Inhabited α] (a : Array α) (i : Nat) (v : α) :
    (a.push v)[i]! = if i < a.size then a[i]! else if i = a.size then v else default := by
  simp only [getElem!_def, Array.getElem?_push]
  by_cases h1 : i < a.size
  · have : ¬ i = a.size := by omega
    simp [h1, this]
  · by_cases h2 : i = a.size
    · simp [h2]
    · simp [h1, h2]

/-- the evaluator knows exactly the simulator's qubits and agrees with it on which are measured -/
structure Agree (st : EState) : Prop where
  flags : st.sim.measured.size = st.sim.n
  count : st.qubits.length = st.sim.n
  same : ∀ i, i < st.sim.n → (st.qubits.getD i default).measured = st.sim.measured[i]!

theorem Agree.set_both {st st' : EState} (h : Agree st) {q : Nat} (hq : q < st.sim.n) (b : Bool) (nm : String)
    (hn : st'.sim.n = st.sim.n) (hm : st'.sim.measured = st.sim.measured.setIfInBounds q b)
    (hqs : st'.qubits = st.qubits.set q { name := nm, measured := b }) : Agree st' := by
  constructor
  · rw [hm, hn, Array.size_setIfInBounds]; exact h.flags
  · rw [hqs, hn, List.length_set]; exact h.count
  · intro i hi
    rw [hn] at hi
    rw [hqs, hm, list_set_getD _ _ _ _ (by rw [h.count]; exact hq), rd_set _ _ _ _ (by rw [h.flags]; exact hq)]
    by_cases e : i = q
    · simp [e]
    · simp only [e, if_false]; exact h.same i hi

theorem Agree.same_sim {st st' : EState} (h : Agree st) (h1 : st'.sim.n = st.sim.n)
    (h2 : st'.sim.measured = st.sim.measured) (h3 : st'.qubits = st.qubits) : Agree st' :=
  ⟨by rw [h2, h1]; exact h.flags, by rw [h3, h1]; exact h.count, fun i hi => by rw [h3, h2]; exact h.same i (by rw [← h1]; exact hi)⟩

theorem Agree.push {st st' : EState} (h : Agree st) (nm : String) (hn : st'.sim.n = st.sim.n + 1)
    (hm : st'.sim.measured = st.sim.measured.push false)
    (hqs : st'.qubits = st.qubits ++ [{ name := nm, measured := false }]) : Agree st' := by
  refine ⟨by rw [hm, hn, Array.size_push, h.flags], by rw [hqs, hn, List.length_append, h.count]; rfl, fun i hi => ?_⟩
  rw [hqs, hm, arr_push_get, h.flags, List.getD_eq_getElem?_getD]
  by_cases hin : i < st.sim.n
  · rw [if_pos hin, List.getElem?_append_left (by rw [h.count]; exact hin), ← List.getD_eq_getElem?_getD]
    exact h.same i hin
  · have he : i = st.sim.n := by omega
    rw [if_neg hin, if_pos he, List.getElem?_append_right (by rw [h.count]; omega), he, h.count]
    simp

theorem agree_start (prog : Program) (draws : List Float) (e l : Bool) : Agree (startState prog draws e l) :=
  ⟨rfl, rfl, fun i hi => by simp [startState, Sim.State.init] at hi⟩

theorem agree_prims : PrimsHoare Agree (fun _ _ => True) :=
  .of_frame (fun _ => trivial) (fun _ _ _ _ _ => trivial)
    (fun _ _ _ _ _ hi => ⟨hi.same_sim rfl rfl rfl, trivial⟩)
    (Hoare.endScope_of_frame (fun _ => trivial) fun _ _ _ _ hi => ⟨hi.same_sim rfl rfl rfl, trivial⟩)
    (Hoare.echoLine_of_frame (fun _ => trivial) fun _ _ hi => ⟨hi.same_sim rfl rfl rfl, trivial⟩)
    (fun n st hi a st' h => by
      obtain ⟨_, s, res, qs, _, _, _, hs, hqs, rfl⟩ | ⟨qs, _, _, _, hqs, rfl⟩ := allocateTrackedQubit_ok h
      · obtain ⟨hq, hs⟩ := (reset_eq_ok _ _ _ _ _).mp hs
        cases hs
        have hl : a < (st.qubits.length : Int) := by rw [hi.count]; omega
        exact ⟨hi.set_both hq false n (resetCore_n ..) (resetCore_measured ..) (hqs hl), trivial⟩
      · exact ⟨hi.push n (allocate_n _ _) (allocate_measured _ _ hi.flags) (hqs hi.count), trivial⟩)
    (fun q p st hi a st' h => by
      obtain ⟨_, _, s, res, hs, rfl⟩ := resetQubit_ok h
      obtain ⟨hq, hs⟩ := (reset_eq_ok _ _ _ _ _).mp hs
      cases hs
      exact ⟨hi.set_both hq false _ (resetCore_n ..) (resetCore_measured ..) rfl, trivial⟩)
    (fun op st hi a st' h => by
      obtain ⟨s, hs, rfl⟩ := simGate_ok h
      -- either `gateMat` knows no matrix for `op` and the state is unchanged, or the gate is applied: flags untouched both times
      obtain ⟨_, rfl⟩ | ⟨_, _, _, _, rfl⟩ := (gate1_eq_ok _ _ _ _).mp hs
      · exact ⟨hi.same_sim rfl rfl rfl, trivial⟩
      · exact ⟨hi.same_sim (log_n ..) (log_measured ..) rfl, trivial⟩)
    (fun c t st hi a st' h => by
      obtain ⟨_, _, s, hs, rfl⟩ := simCx_ok h
      obtain ⟨_, _, _, rfl⟩ := (cx_eq_ok _ _ _ _).mp hs
      exact ⟨hi.same_sim (log_n ..) (log_measured ..) rfl, trivial⟩)
    (fun q p st hi a st' h => by
      obtain ⟨_, _, _, s, res, hs, _, rfl⟩ := measureQubit_ok h
      obtain ⟨ha, hs⟩ := (measure_eq_ok _ _ _ _ _).mp hs
      cases hs
      exact ⟨hi.set_both (ensureActive_lt ha) true _ (measureCore_n ..) (measureCore_measured ..) rfl, trivial⟩)

theorem call_keeps_flags_in_agreement (fuel : Nat) (fn : FuncDecl) (args : List Value) (st st' : EState) (v : Value)
    (hi : Agree st) (h : (call fuel fn args).run st = .ok (v, st')) : Agree st' :=
  (hoare_call agree_prims fuel fn args st hi v st' h).1

/-- **Where a statement has ended successfully from an agreeing state, the evaluator's measured flags are the simulator's.** -/
theorem exec_keeps_flags_in_agreement (fuel : Nat) (s : Stmt) (st st' : EState)
    (hi : Agree st) (h : (exec fuel s).run st = .ok ((), st')) : Agree st' :=
  (hoare_exec agree_prims fuel s st hi () st' h).1

end BlochVerif.Eval
