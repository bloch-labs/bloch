import BlochVerif.Sim.History
/-!
# Allocation commutes with every performed operation (towards the replay clause of C05)

The simulator allocates qubits when the program declares them, interleaved with gates; an OpenQASM program
declares the whole register up front.  Over exact complex amplitudes the two are the same: allocating a qubit
(`ψ ↦ ψ ⊗ |0⟩`) before or after an operation on lower qubits gives the same state.
-/
namespace BlochVerif.Sim
open Finset

theorem push_setIfInBounds (a : Array Bool) (q : ℕ) (v : Bool) (hq : q < a.size) :
    (a.push false).setIfInBounds q v = (a.setIfInBounds q v).push false := by
  apply Array.ext_getElem?
  intro i
  simp only [Array.getElem?_setIfInBounds, Array.getElem?_push, Array.size_push, Array.size_setIfInBounds]
  by_cases hi : q = i
  · subst hi
    have h1 : q < a.size + 1 := by omega
    have h2 : ¬ q = a.size := by omega
    simp [h1, h2, hq]
  · by_cases hs : i = a.size
    · subst hs; simp [hi]
    · simp [hi, hs]

/-! Each operation commutes with an allocation: both ways round, the wave function is the operation's specification
applied to the old one (`absArr_allocate`); the specifications depend on the register size only through the branch
weights, which the zero upper half does not change. -/

theorem gate_commutes_allocate (st : State ℂ ℝ) (hw : WF st) (op : QOp ℝ) (s : State ℂ ℝ)
    (h : gate1 complexOps st op = .ok s) :
    gate1 complexOps (allocate complexOps st).1 op = .ok (allocate complexOps s).1 := by
  rw [gate1_eq_ok] at h ⊢
  obtain ⟨hg, rfl⟩ | ⟨q, m, hg, he, rfl⟩ := h
  · exact .inl ⟨hg, rfl⟩
  · have hq := ensureActive_lt he
    refine .inr ⟨q, m, hg, ensureActive_allocate _ st hw.flags q he, ?_⟩
    apply State.ext5
    · simp
    · apply absArr_inj (by simp)
      rw [log_amps, absArr_applySingle _ (st.n + 1) q m (WF_allocate st hw).size (by omega), absArr_allocate,
        absArr_allocate, log_amps, absArr_applySingle _ st.n q m hw.size hq]
    · simp [allocate_measured, hw.flags]
    · simp [log_ops]
    · simp

theorem cx_commutes_allocate (st : State ℂ ℝ) (hw : WF st) (c t : ℕ) (s : State ℂ ℝ)
    (h : cx st c t = .ok s) :
    cx (allocate complexOps st).1 c t = .ok (allocate complexOps s).1 := by
  rw [cx_eq_ok] at h ⊢
  obtain ⟨hc, ht, hct, rfl⟩ := h
  have hcn := ensureActive_lt hc
  have htn := ensureActive_lt ht
  refine ⟨ensureActive_allocate _ st hw.flags c hc, ensureActive_allocate _ st hw.flags t ht, hct, ?_⟩
  apply State.ext5
  · simp
  · apply absArr_inj (by simp)
    rw [log_amps, absArr_cxLoop _ (st.n + 1) c t (WF_allocate st hw).size (by omega) (by omega) hct,
      absArr_allocate, absArr_allocate, log_amps, absArr_cxLoop _ st.n c t hw.size hcn htn hct]
  · simp [allocate_measured, hw.flags]
  · simp [log_ops]
  · simp

/-- the masses over the doubled register are those over the old one: its new half is empty -/
theorem massSpec_allocate (st : State ℂ ℝ) (hw : WF st) (q : ℕ) (b : Bool) :
    massSpec (absArr st.amps) (2 ^ (st.n + 1)) q b = massSpec (absArr st.amps) (2 ^ st.n) q b :=
  massSpec_of_vanish _ (Nat.pow_le_pow_right (by omega) (by omega))
    (fun k hk => absArr_of_size_le _ (by rw [hw.size]; exact hk)) q b

theorem measure_commutes_allocate (st : State ℂ ℝ) (hw : WF st) (q : ℕ) (r : ℝ) (s : State ℂ ℝ) (res : ℕ)
    (h : measure complexOps st q r = .ok (s, res)) :
    measure complexOps (allocate complexOps st).1 q r = .ok ((allocate complexOps s).1, res) := by
  rw [measure_eq_ok] at h ⊢
  obtain ⟨he, h⟩ := h
  obtain ⟨rfl, rfl⟩ := Prod.mk.inj h
  have hq := ensureActive_lt he
  have hwa := WF_allocate st hw
  have hres : (measureCore complexOps (allocate complexOps st).1 q r).2 = (measureCore complexOps st q r).2 := by
    rw [measureCore_outcome _ hwa, measureCore_outcome st hw, absArr_allocate, allocate_n, massSpec_allocate st hw]
  refine ⟨ensureActive_allocate _ st hw.flags q he, ?_⟩
  rw [hres]
  congr 1
  apply State.ext5
  · simp
  · apply absArr_inj (by simp)
    rw [measureCore_abs _ hwa, hres, absArr_allocate, absArr_allocate, measureCore_abs st hw, allocate_n]
    unfold collapseSpec
    rw [massSpec_allocate st hw]
  · rw [measureCore_measured, allocate_measured _ st hw.flags,
      allocate_measured _ _ (by simp [hw.flags]), measureCore_measured]
    exact push_setIfInBounds st.measured q true (by rw [hw.flags]; exact hq)
  · rw [measureCore_ops, allocate_ops, allocate_ops, measureCore_ops, allocate_logOps]
  · simp

theorem reset_commutes_allocate (st : State ℂ ℝ) (hw : WF st) (q : ℕ) (r : ℝ) (s : State ℂ ℝ) (res : ℕ)
    (h : reset complexOps st q r = .ok (s, res)) :
    reset complexOps (allocate complexOps st).1 q r = .ok ((allocate complexOps s).1, res) := by
  rw [reset_eq_ok] at h ⊢
  obtain ⟨hq, h⟩ := h
  obtain ⟨rfl, rfl⟩ := Prod.mk.inj h
  have hwa := WF_allocate st hw
  have hres : (resetCore complexOps (allocate complexOps st).1 q r).2 = (resetCore complexOps st q r).2 := by
    rw [resetCore_snd, resetCore_snd, measureCore_outcome _ hwa, measureCore_outcome st hw, absArr_allocate,
      allocate_n, massSpec_allocate st hw]
  refine ⟨by rw [allocate_n]; omega, ?_⟩
  rw [hres]
  congr 1
  apply State.ext5
  · simp
  · apply absArr_inj (by simp)
    rw [resetCore_abs _ hwa q (by rw [allocate_n]; omega), hres, absArr_allocate, absArr_allocate,
      resetCore_abs st hw q hq, allocate_n]
    unfold resetSpec
    rw [massSpec_allocate st hw]
  · rw [resetCore_measured, allocate_measured _ st hw.flags,
      allocate_measured _ _ (by simp [hw.flags]), resetCore_measured]
    exact push_setIfInBounds st.measured q false (by rw [hw.flags]; exact hq)
  · rw [resetCore_ops, allocate_ops, allocate_ops, resetCore_ops, allocate_logOps]
  · simp

/-- the simulator does not refuse the operation in this state -/
def Performed (st : State ℂ ℝ) : HOp ℝ → Prop
  | .alloc => True
  | .gate g => ∃ s, gate1 complexOps st g = .ok s
  | .cx c t => ∃ s, cx st c t = .ok s
  | .measure q r => ∃ s res, measure complexOps st q r = .ok (s, res)
  | .reset q r => ∃ s res, reset complexOps st q r = .ok (s, res)

def AllPerformed : State ℂ ℝ → List (HOp ℝ) → Prop
  | _, [] => True
  | st, op :: rest => Performed st op ∧ AllPerformed (stepOp complexOps st op) rest

def isAlloc : HOp ℝ → Bool
  | .alloc => true
  | _ => false

/-- declare `k` qubits at once -/
noncomputable def allocN : ℕ → State ℂ ℝ → State ℂ ℝ
  | 0, st => st
  | k + 1, st => allocN k (allocate complexOps st).1

theorem WF_allocN (k : ℕ) (st : State ℂ ℝ) (hw : WF st) : WF (allocN k st) := by
  induction k generalizing st with
  | zero => exact hw
  | succ k ih => exact ih _ (WF_allocate st hw)

theorem step_commutes_allocate (st : State ℂ ℝ) (hw : WF st) (op : HOp ℝ) (hna : isAlloc op = false)
    (hp : Performed st op) :
    stepOp complexOps (allocate complexOps st).1 op = (allocate complexOps (stepOp complexOps st op)).1 ∧
    Performed (allocate complexOps st).1 op := by
  cases op with
  | alloc => simp [isAlloc] at hna
  | gate g =>
    obtain ⟨s, hs⟩ := hp
    have := gate_commutes_allocate st hw g s hs
    exact ⟨by simp only [stepOp, this, hs], ⟨_, this⟩⟩
  | cx c t =>
    obtain ⟨s, hs⟩ := hp
    have := cx_commutes_allocate st hw c t s hs
    exact ⟨by simp only [stepOp, this, hs], ⟨_, this⟩⟩
  | measure q r =>
    obtain ⟨s, res, hs⟩ := hp
    have := measure_commutes_allocate st hw q r s res hs
    exact ⟨by simp only [stepOp, this, hs], ⟨_, _, this⟩⟩
  | reset q r =>
    obtain ⟨s, res, hs⟩ := hp
    have := reset_commutes_allocate st hw q r s res hs
    exact ⟨by simp only [stepOp, this, hs], ⟨_, _, this⟩⟩

theorem step_commutes_allocN (k : ℕ) : ∀ (st : State ℂ ℝ), WF st → ∀ (op : HOp ℝ), isAlloc op = false →
    Performed st op → stepOp complexOps (allocN k st) op = allocN k (stepOp complexOps st op) := by
  induction k with
  | zero => intro st _ op _ _; rfl
  | succ k ih =>
    intro st hw op hna hp
    obtain ⟨h1, h2⟩ := step_commutes_allocate st hw op hna hp
    simp only [allocN]
    rw [ih _ (WF_allocate st hw) op hna h2, h1]

def nAllocs (h : List (HOp ℝ)) : ℕ := h.countP isAlloc
def opsOnly (h : List (HOp ℝ)) : List (HOp ℝ) := h.filter (fun op => !isAlloc op)

theorem nAllocs_cons (op : HOp ℝ) (h : List (HOp ℝ)) :
    nAllocs (op :: h) = nAllocs h + if isAlloc op then 1 else 0 := List.countP_cons ..

theorem opsOnly_cons (op : HOp ℝ) (h : List (HOp ℝ)) :
    opsOnly (op :: h) = if isAlloc op then opsOnly h else op :: opsOnly h := by
  cases ha : isAlloc op <;> simp [opsOnly, ha]

/-- **Allocating the whole register up front gives the same run.**  For every history from a well-formed state whose
operations are all performed and whose draws are in `[0,1)`, running it with its allocations interleaved equals
declaring that many qubits first and then running the operations — same amplitudes, same flags, same log. -/
theorem interleaved_allocation_equals_upfront : ∀ (h : List (HOp ℝ)) (st : State ℂ ℝ), WF st →
    (∀ op ∈ h, DrawOK op) → AllPerformed st h →
    runOps complexOps st h = runOps complexOps (allocN (nAllocs h) st) (opsOnly h) := by
  intro h
  induction h with
  | nil => intro st _ _ _; rfl
  | cons op rest ih =>
    intro st hw hd hp
    rw [runOps_cons, ih _ (WF_step st hw op (hd op (List.mem_cons_self ..)))
      (fun o ho => hd o (List.mem_cons_of_mem _ ho)) hp.2, nAllocs_cons, opsOnly_cons]
    cases ha : isAlloc op
    · rw [if_neg (by simp), if_neg (by simp), runOps_cons, step_commutes_allocN _ st hw op ha hp.1]
      rfl
    · cases op <;> simp [isAlloc] at ha
      rfl

end BlochVerif.Sim
