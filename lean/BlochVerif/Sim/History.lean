import BlochVerif.Sim.Measure
import BlochVerif.Sim.Gates
/-!
# C03 (first half): the state stays a unit `2^n` vector along every history
-/
namespace BlochVerif.Sim
open Finset

theorem WF_init (l : Bool) : WF (State.init complexOps l) := by
  refine ⟨rfl, ?_, rfl⟩
  show nrm2 _ (2 ^ 0) = 1
  simp [nrm2, absArr, State.init, complexOps]

theorem WF_allocate (st : State ℂ ℝ) (hw : WF st) : WF (allocate complexOps st).1 := by
  refine ⟨?_, ?_, ?_⟩
  · rw [allocate_amps_size, allocate_n, hw.size, Nat.pow_succ]; omega
  · rw [absArr_allocate, allocate_n, ← hw.norm]
    exact nrm2_of_vanish _ (Nat.pow_le_pow_right (by omega) (by omega))
      (fun k hk => absArr_of_size_le _ (by rw [hw.size]; exact hk))
  · rw [allocate_measured complexOps st hw.flags, Array.size_push, hw.flags, allocate_n]

theorem WF_gate (st : State ℂ ℝ) (hw : WF st) (op : QOp ℝ) (q : ℕ) (m : Mat2 ℂ)
    (hg : gateMat complexOps op = some (q, m)) (he : ensureActive st q = .ok ()) :
    WF (({ st with amps := applySingle st.amps q m }).log op) := by
  have hq := ensureActive_lt he
  refine ⟨by simp [hw.size], ?_, by simp [hw.flags]⟩
  rw [log_amps, log_n, absArr_applySingle _ st.n q m hw.size hq]
  exact (gate_norm _ st.n q hq m (gateMat_unitary op q m hg)).trans hw.norm

theorem WF_cx (st : State ℂ ℝ) (hw : WF st) (c t : ℕ) (hc : ensureActive st c = .ok ())
    (ht : ensureActive st t = .ok ()) (hct : c ≠ t) :
    WF (({ st with amps := cxLoop st.amps c t }).log (.cx c t)) := by
  have hcn := ensureActive_lt hc
  have htn := ensureActive_lt ht
  refine ⟨by simp [hw.size], ?_, by simp [hw.flags]⟩
  rw [log_amps, log_n, absArr_cxLoop _ st.n c t hw.size hcn htn hct]
  exact (cx_norm _ st.n c t htn hct).trans hw.norm

theorem WF_measureCore (st : State ℂ ℝ) (hw : WF st) (q : ℕ) (r : ℝ) (hr0 : 0 ≤ r) (hr1 : r < 1) :
    WF (measureCore complexOps st q r).1 := by
  refine ⟨by simp [hw.size], ?_, by simp [hw.flags]⟩
  rw [measureCore_abs st hw, measureCore_outcome st hw, measureCore_n]
  exact nrm2_collapse _ _ q _ (branch_pos _ _ q hw.norm r hr0 hr1)

theorem WF_resetCore (st : State ℂ ℝ) (hw : WF st) (q : ℕ) (hq : q < st.n) (r : ℝ)
    (hr0 : 0 ≤ r) (hr1 : r < 1) : WF (resetCore complexOps st q r).1 := by
  refine ⟨by simp [hw.size], ?_, by simp [hw.flags]⟩
  rw [resetCore_abs st hw q hq, resetCore_snd, measureCore_outcome st hw, resetCore_n]
  exact nrm2_reset _ st.n q hq _ (branch_pos _ _ q hw.norm r hr0 hr1)

def DrawOK : HOp ℝ → Prop
  | .measure _ r => 0 ≤ r ∧ r < 1
  | .reset _ r => 0 ≤ r ∧ r < 1
  | _ => True

theorem WF_step (st : State ℂ ℝ) (hw : WF st) (op : HOp ℝ) (hd : DrawOK op) :
    WF (stepOp complexOps st op) :=
  stepOp_cases complexOps st (P := fun op s _ => DrawOK op → WF s)
    (refused := fun _ _ _ => hw) (alloc := fun _ => WF_allocate st hw)
    (gate := fun g q m hg he _ => WF_gate st hw g q m hg he)
    (cx := fun c t hc ht hct _ => WF_cx st hw c t hc ht hct)
    (measure := fun q r _ hd => WF_measureCore st hw q r hd.1 hd.2)
    (reset := fun q r hq hd => WF_resetCore st hw q hq r hd.1 hd.2) op hd

/-- **C03, first half.** After any finite history of allocations, gates, `cx`, measurements and
    resets (with draws in `[0,1)`), the state has exactly `2^n` amplitudes and unit norm. -/
theorem WF_run (h : List (HOp ℝ)) (st : State ℂ ℝ) (hw : WF st) (hd : ∀ op ∈ h, DrawOK op) :
    WF (runOps complexOps st h) := by
  induction h generalizing st with
  | nil => exact hw
  | cons op rest ih =>
    exact ih _ (WF_step st hw op (hd op (by simp))) (fun o ho => hd o (by simp [ho]))

end BlochVerif.Sim
