import BlochVerif.Util.Loops
/-!
# Model of `src/bloch/runtime/qasm_simulator.cpp`

One Lean definition per C++ member function, with the same loops (`forStep`) and the same
index arithmetic.  The model is generic in the amplitude type `K` and the real type `R`:

* instantiated with `CF`/`Float` (file `Sim/FloatInst.lean`) it is *executed* by the driver and
  compared with the real simulator after every operation (the correspondence check);
* instantiated with Mathlib's `ℂ`/`ℝ` (file `Sim/Complex.lean`) it is what the theorems of
  C01–C05 are about.  The same definitions are run and reasoned about.

Core-only: nothing here imports Mathlib.
-/

namespace BlochVerif.Sim

structure Mat2 (K : Type) where
  a : K
  b : K
  c : K
  d : K

/-- Real/complex operations the simulator uses, passed explicitly (no type-class diamonds
    with Mathlib's instances on `ℂ`). `K` additionally needs `+` and `*`. -/
structure ROps (K R : Type) where
  cplx    : R → R → K          -- std::complex<double>(re, im)
  kzero   : K
  normSq  : K → R              -- std::norm
  divR    : K → R → K          -- z /= r
  mulR    : K → R → K          -- z *= r
  zero    : R
  one     : R
  add     : R → R → R
  sub     : R → R → R
  mul     : R → R → R
  div     : R → R → R
  neg     : R → R
  sqrt    : R → R
  invSqrt2 : R                  -- 1 / std::sqrt(2.0)
  cosHalf : R → R              -- std::cos(t / 2)
  sinHalf : R → R              -- std::sin(t / 2)
  lt      : R → R → Bool
  isZero  : R → Bool           -- x == 0.0

/-- One line of the operation log (`m_ops`), kept structured; `Qasm.render` prints it. -/
inductive QOp (R : Type) where
  | h (q : Nat) | x (q : Nat) | y (q : Nat) | z (q : Nat)
  | rx (q : Nat) (t : R) | ry (q : Nat) (t : R) | rz (q : Nat) (t : R)
  | cx (c t : Nat)
  | reset (q : Nat)
  | measure (q : Nat)
deriving Repr

inductive SimErr where
  | outOfRange (q : Int)
  | measured (q : Nat)
  | sameOperand (q : Nat)
deriving Repr, DecidableEq

structure State (K R : Type) where
  n        : Nat := 0                 -- m_qubits
  amps     : Array K                  -- m_state
  measured : Array Bool := #[]        -- m_measured
  ops      : List (QOp R) := []       -- m_ops (structured)
  logOps   : Bool := true

section
variable {K R : Type} [Inhabited K]

def State.init (o : ROps K R) (logOps : Bool := true) : State K R :=
  { n := 0, amps := #[o.cplx o.one o.zero], measured := #[], ops := [], logOps := logOps }

def State.log (st : State K R) (op : QOp R) : State K R :=
  if st.logOps then { st with ops := st.ops ++ [op] } else st

/-- `QasmSimulator::allocateQubit` -/
def allocate (o : ROps K R) (st : State K R) : State K R × Nat :=
  let index := st.n
  let measured :=
    if index ≥ st.measured.size then st.measured ++ Array.replicate (index + 1 - st.measured.size) false
    else st.measured.setIfInBounds index false
  let sz := st.amps.size
  let newState : Array K := Array.replicate (sz * 2) o.kzero
  let newState := forRange sz (fun i ns =>
      (ns.setIfInBounds i st.amps[i]!).setIfInBounds (i + sz) o.kzero) newState
  ({ st with n := st.n + 1, measured := measured, amps := newState }, index)

/-- `QasmSimulator::ensureQubitActive` (the C++ takes an `int`; negative indices are
    represented by `q : Int` at the driver boundary and rejected there with `outOfRange`). -/
def ensureActive (st : State K R) (q : Nat) : Except SimErr Unit :=
  if q ≥ st.n then .error (.outOfRange q)
  else if q < st.measured.size && st.measured[q]! then .error (.measured q)
  else .ok ()

variable [Add K] [Mul K]

def pairUpdate (m : Mat2 K) (step i j : Nat) (st : Array K) : Array K :=
  let idx0 := i + j
  let idx1 := idx0 + step
  let a0 := st[idx0]!
  let a1 := st[idx1]!
  (st.setIfInBounds idx0 (m.a * a0 + m.b * a1)).setIfInBounds idx1 (m.c * a0 + m.d * a1)

/-- The two nested loops of `applySingleQubitGate`. -/
def applySingle (arr : Array K) (q : Nat) (m : Mat2 K) : Array K :=
  let step := 2 ^ q
  forStep arr.size (2 * step)
    (fun i st => forStep step 1 (fun j st => pairUpdate m step i j st) 0 st) 0 arr

def swapCells (st : Array K) (i j : Nat) : Array K :=
  let a := st[i]!
  let b := st[j]!
  (st.setIfInBounds i b).setIfInBounds j a

/-- The three nested loops of `QasmSimulator::cx` (without the activity checks). -/
def cxLoop (arr : Array K) (control target : Nat) : Array K :=
  let low := min control target
  let high := max control target
  let lowBit := 1 <<< low
  let highBit := 1 <<< high
  let blockSize := 1 <<< (high + 1)
  let lowSpan := lowBit
  let betweenSpan := if high > low + 1 then 1 <<< (high - low - 1) else 1
  let controlIsLow := control == low
  forStep arr.size blockSize (fun block st =>
    forStep betweenSpan 1 (fun between st =>
      let mid := between <<< (low + 1)
      forStep lowSpan 1 (fun lowOffset st =>
        let base := block ||| mid ||| lowOffset
        let idx0 := if controlIsLow then base ||| lowBit else base ||| highBit
        let idx1 := if controlIsLow then idx0 ||| highBit else idx0 ||| lowBit
        swapCells st idx0 idx1) 0 st) 0 st) 0 arr

def gateMat (o : ROps K R) : QOp R → Option (Nat × Mat2 K)
  | .h q => some (q, ⟨o.cplx o.invSqrt2 o.zero, o.cplx o.invSqrt2 o.zero,
                      o.cplx o.invSqrt2 o.zero, o.cplx (o.neg o.invSqrt2) o.zero⟩)
  | .x q => some (q, ⟨o.cplx o.zero o.zero, o.cplx o.one o.zero, o.cplx o.one o.zero, o.cplx o.zero o.zero⟩)
  | .y q => some (q, ⟨o.cplx o.zero o.zero, o.cplx o.zero (o.neg o.one),
                      o.cplx o.zero o.one, o.cplx o.zero o.zero⟩)
  | .z q => some (q, ⟨o.cplx o.one o.zero, o.cplx o.zero o.zero,
                      o.cplx o.zero o.zero, o.cplx (o.neg o.one) o.zero⟩)
  | .rx q t => let c := o.cosHalf t; let s := o.sinHalf t
      some (q, ⟨o.cplx c o.zero, o.cplx o.zero (o.neg s), o.cplx o.zero (o.neg s), o.cplx c o.zero⟩)
  | .ry q t => let c := o.cosHalf t; let s := o.sinHalf t
      some (q, ⟨o.cplx c o.zero, o.cplx (o.neg s) o.zero, o.cplx s o.zero, o.cplx c o.zero⟩)
  | .rz q t => let c := o.cosHalf t; let s := o.sinHalf t
      some (q, ⟨o.cplx c (o.neg s), o.cplx o.zero o.zero, o.cplx o.zero o.zero, o.cplx c s⟩)
  | _ => none

/-- `h`, `x`, `y`, `z`, `rx`, `ry`, `rz`: check, apply, then log. -/
def gate1 (o : ROps K R) (st : State K R) (op : QOp R) : Except SimErr (State K R) :=
  match gateMat o op with
  | none => .ok st
  | some (q, m) => do
    ensureActive st q
    pure (({ st with amps := applySingle st.amps q m }).log op)

/-- `QasmSimulator::cx` -/
def cx (st : State K R) (c t : Nat) : Except SimErr (State K R) := do
  ensureActive st c
  ensureActive st t
  if c = t then throw (.sameOperand c)
  pure (({ st with amps := cxLoop st.amps c t }).log (.cx c t))

/-- probability mass of the `bit q = b` half, accumulated left to right as the C++ does -/
def mass (o : ROps K R) (arr : Array K) (q : Nat) (b : Bool) : R :=
  forRange arr.size (fun i acc => if i.testBit q == b then o.add acc (o.normSq arr[i]!) else acc) o.zero

/-- zero the `bit q ≠ res` half and divide the other half by `norm` -/
def collapse (o : ROps K R) (arr : Array K) (q : Nat) (res : Bool) (norm : R) : Array K :=
  forRange arr.size (fun i st =>
    if i.testBit q != res then st.setIfInBounds i o.kzero
    else st.setIfInBounds i (o.divR st[i]! norm)) arr

/-- the body of `QasmSimulator::measure` after the activity check; `r` is the uniform draw -/
def measureCore (o : ROps K R) (st : State K R) (q : Nat) (r : R) : State K R × Bool :=
  let p0 := mass o st.amps q false
  let p1 := mass o st.amps q true
  let res := o.lt (o.mul r (o.add p0 p1)) p1
  let norm := o.sqrt (if res then p1 else p0)
  let st1 := ({ st with amps := collapse o st.amps q res norm }).log (.measure q)
  ({ st1 with measured := st1.measured.setIfInBounds q true }, res)

/-- `QasmSimulator::measure`, with the random draw `r` an explicit input. -/
def measure (o : ROps K R) (st : State K R) (q : Nat) (r : R) : Except SimErr (State K R × Nat) := do
  ensureActive st q
  let (st', res) := measureCore o st q r
  pure (st', if res then 1 else 0)

/-- move the `bit q = 1` half into the `bit q = 0` half and zero it -/
def swapDown (o : ROps K R) (arr : Array K) (q : Nat) : Array K :=
  forRange arr.size (fun i st =>
    if i.testBit q then (st.setIfInBounds (i ^^^ (1 <<< q)) st[i]!).setIfInBounds i o.kzero
    else st) arr

/-- the body of `QasmSimulator::reset` after the range check (C04 repair): sample the target
    like a measurement with the explicit draw `r`, collapse, and if the outcome was 1 move the
    amplitude into the `|0>` half.  The flag is cleared and the log line is `reset q[i];`. -/
def resetCore (o : ROps K R) (st : State K R) (q : Nat) (r : R) : State K R × Bool :=
  let st0 := { st with measured := st.measured.setIfInBounds q false }
  let p0 := mass o st0.amps q false
  let p1 := mass o st0.amps q true
  let res := o.lt (o.mul r (o.add p0 p1)) p1
  let norm := o.sqrt (if res then p1 else p0)
  let amps := collapse o st0.amps q res norm
  let amps := if res then swapDown o amps q else amps
  (({ st0 with amps := amps }).log (.reset q), res)

/-- `QasmSimulator::reset` -/
def reset (o : ROps K R) (st : State K R) (q : Nat) (r : R) : Except SimErr (State K R × Nat) := do
  if q ≥ st.n then throw (.outOfRange q)
  let (st', res) := resetCore o st q r
  pure (st', if res then 1 else 0)

end
end BlochVerif.Sim

namespace BlochVerif.Sim
section
variable {K R : Type} [Inhabited K] [Add K] [Mul K]

/-- one operation of a simulator history; measurement and reset carry their uniform draw -/
inductive HOp (R : Type) where
  | alloc
  | gate (op : QOp R)
  | cx (c t : Nat)
  | measure (q : Nat) (r : R)
  | reset (q : Nat) (r : R)

/-- run one operation; an operation the simulator refuses (out of range, measured qubit,
    `cx q q`) throws before mutating anything, so the state is unchanged -/
def stepOp (o : ROps K R) (st : State K R) : HOp R → State K R
  | .alloc => (allocate o st).1
  | .gate op => match gate1 o st op with | .ok s => s | .error _ => st
  | .cx c t => match cx st c t with | .ok s => s | .error _ => st
  | .measure q r => match measure o st q r with | .ok (s, _) => s | .error _ => st
  | .reset q r => match reset o st q r with | .ok (s, _) => s | .error _ => st

def runOps (o : ROps K R) (st : State K R) (h : List (HOp R)) : State K R := h.foldl (stepOp o) st

end
end BlochVerif.Sim
