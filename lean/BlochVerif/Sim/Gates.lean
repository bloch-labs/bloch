import BlochVerif.Sim.Complex
/-!
# The seven matrices of `qasm_simulator.cpp` are the standard ones, and unitary
-/
namespace BlochVerif.Sim

def QOp.isGate1 {R : Type} : QOp R → Bool
  | .h _ | .x _ | .y _ | .z _ | .rx _ _ | .ry _ _ | .rz _ _ => true
  | _ => false

theorem inv_sqrt2_sq : (1 / Real.sqrt 2) * (1 / Real.sqrt 2) = 1 / 2 := by
  rw [div_mul_div_comm, Real.mul_self_sqrt (by norm_num)]; norm_num

theorem gateMat_unitary (op : QOp ℝ) (q : ℕ) (m : Mat2 ℂ)
    (h : gateMat complexOps op = some (q, m)) : IsUnitary2 m := by
  cases op <;> simp only [gateMat, complexOps, Option.some.injEq, Prod.mk.injEq, reduceCtorEq] at h <;>
    obtain ⟨rfl, rfl⟩ := h
  case h =>
    have e := inv_sqrt2_sq
    refine ⟨?_, ?_, ?_⟩
    · simp only [Complex.normSq_mk]; linear_combination 2 * e
    · simp only [Complex.normSq_mk]; linear_combination 2 * e
    · apply Complex.ext <;> simp
  case x | y | z =>
    refine ⟨?_, ?_, ?_⟩
    · simp
    · simp
    · apply Complex.ext <;> simp
  case rx _ t | ry _ t | rz _ t =>
    have e := Real.cos_sq_add_sin_sq (t / 2)
    refine ⟨?_, ?_, ?_⟩
    · simp only [Complex.normSq_mk]; linear_combination e
    · simp only [Complex.normSq_mk]; linear_combination e
    · apply Complex.ext <;> simp <;> ring

/-! The matrices are the textbook ones: Pauli matrices and Hadamard literally; rotations as
`cos(t/2)·1 − i·sin(t/2)·P`, which is the closed form of `exp(−i t P / 2)` because `P² = 1` (`pauli_sq`), together with
the one-parameter group law `R_P(s) R_P(t) = R_P(s+t)` and `R_P(0) = 1` that characterise the exponential. -/

def matMul (m₁ m₂ : Mat2 ℂ) : Mat2 ℂ :=
  ⟨m₁.a * m₂.a + m₁.b * m₂.c, m₁.a * m₂.b + m₁.b * m₂.d,
   m₁.c * m₂.a + m₁.d * m₂.c, m₁.c * m₂.b + m₁.d * m₂.d⟩

def pauliX : Mat2 ℂ := ⟨0, 1, 1, 0⟩
def pauliY : Mat2 ℂ := ⟨0, -Complex.I, Complex.I, 0⟩
def pauliZ : Mat2 ℂ := ⟨1, 0, 0, -1⟩
def ident : Mat2 ℂ := ⟨1, 0, 0, 1⟩

/-- `cos(t/2)·1 − i·sin(t/2)·P` -/
noncomputable def rotOf (p : Mat2 ℂ) (t : ℝ) : Mat2 ℂ :=
  let c : ℂ := (Real.cos (t / 2) : ℝ)
  let s : ℂ := (Real.sin (t / 2) : ℝ)
  ⟨c * 1 - Complex.I * s * p.a, c * 0 - Complex.I * s * p.b,
   c * 0 - Complex.I * s * p.c, c * 1 - Complex.I * s * p.d⟩

theorem Mat2.ext' {m₁ m₂ : Mat2 ℂ} (ha : m₁.a = m₂.a) (hb : m₁.b = m₂.b) (hc : m₁.c = m₂.c)
    (hd : m₁.d = m₂.d) : m₁ = m₂ := by
  cases m₁; cases m₂; simp_all

theorem pauli_sq : matMul pauliX pauliX = ident ∧ matMul pauliY pauliY = ident ∧
    matMul pauliZ pauliZ = ident := by
  refine ⟨?_, ?_, ?_⟩ <;> apply Mat2.ext' <;> simp [matMul, pauliX, pauliY, pauliZ, ident]

theorem gate_x (q : ℕ) : gateMat complexOps (.x q) = some (q, pauliX) := by
  simp only [gateMat, complexOps, pauliX, Option.some.injEq, Prod.mk.injEq, true_and]
  apply Mat2.ext' <;> apply Complex.ext <;> simp

theorem gate_y (q : ℕ) : gateMat complexOps (.y q) = some (q, pauliY) := by
  simp only [gateMat, complexOps, pauliY, Option.some.injEq, Prod.mk.injEq, true_and]
  apply Mat2.ext' <;> apply Complex.ext <;> simp

theorem gate_z (q : ℕ) : gateMat complexOps (.z q) = some (q, pauliZ) := by
  simp only [gateMat, complexOps, pauliZ, Option.some.injEq, Prod.mk.injEq, true_and]
  apply Mat2.ext' <;> apply Complex.ext <;> simp

/-- Hadamard: `(X + Z)/√2` -/
noncomputable def hadamard : Mat2 ℂ :=
  let s : ℂ := ((1 / Real.sqrt 2 : ℝ) : ℂ)
  ⟨s * (pauliX.a + pauliZ.a), s * (pauliX.b + pauliZ.b), s * (pauliX.c + pauliZ.c),
   s * (pauliX.d + pauliZ.d)⟩

theorem gate_h (q : ℕ) : gateMat complexOps (.h q) = some (q, hadamard) := by
  simp only [gateMat, complexOps, hadamard, pauliX, pauliZ, Option.some.injEq, Prod.mk.injEq, true_and]
  -- without `one_div`: with it simp brings the two sides to `(√2)⁻¹` and `√2 / 2` and stops there
  apply Mat2.ext' <;> apply Complex.ext <;> simp [-one_div]

theorem gate_rx (q : ℕ) (t : ℝ) : gateMat complexOps (.rx q t) = some (q, rotOf pauliX t) := by
  simp only [gateMat, complexOps, rotOf, pauliX, Option.some.injEq, Prod.mk.injEq, true_and]
  -- here and for `ry`, `rz` without `Complex.ofReal_cos`, `_sin`: they turn `rotOf`'s `↑(Real.cos (t / 2))` into
  -- `Complex.cos (↑t / 2)`, whose real and imaginary part simp cannot read off
  apply Mat2.ext' <;> apply Complex.ext <;> simp [-Complex.ofReal_cos, -Complex.ofReal_sin]

theorem gate_ry (q : ℕ) (t : ℝ) : gateMat complexOps (.ry q t) = some (q, rotOf pauliY t) := by
  simp only [gateMat, complexOps, rotOf, pauliY, Option.some.injEq, Prod.mk.injEq, true_and]
  apply Mat2.ext' <;> apply Complex.ext <;> simp [-Complex.ofReal_cos, -Complex.ofReal_sin]

theorem gate_rz (q : ℕ) (t : ℝ) : gateMat complexOps (.rz q t) = some (q, rotOf pauliZ t) := by
  simp only [gateMat, complexOps, rotOf, pauliZ, Option.some.injEq, Prod.mk.injEq, true_and]
  apply Mat2.ext' <;> apply Complex.ext <;> simp [-Complex.ofReal_cos, -Complex.ofReal_sin]

theorem rotOf_zero (p : Mat2 ℂ) : rotOf p 0 = ident := by
  apply Mat2.ext' <;> simp [rotOf, ident]

theorem rotOf_add (p : Mat2 ℂ) (hp : matMul p p = ident) (s t : ℝ) :
    matMul (rotOf p s) (rotOf p t) = rotOf p (s + t) := by
  have ha : p.a * p.a + p.b * p.c = 1 := by have := congrArg Mat2.a hp; simpa [matMul, ident] using this
  have hb : p.a * p.b + p.b * p.d = 0 := by have := congrArg Mat2.b hp; simpa [matMul, ident] using this
  have hc : p.c * p.a + p.d * p.c = 0 := by have := congrArg Mat2.c hp; simpa [matMul, ident] using this
  have hd : p.c * p.b + p.d * p.d = 1 := by have := congrArg Mat2.d hp; simpa [matMul, ident] using this
  have e : (s + t) / 2 = s / 2 + t / 2 := by ring
  have I2 : Complex.I * Complex.I = -1 := Complex.I_mul_I
  simp only [matMul, rotOf, e, Real.cos_add, Real.sin_add, Complex.ofReal_add, Complex.ofReal_sub,
    Complex.ofReal_mul, mul_one, mul_zero, zero_sub, Mat2.mk.injEq]
  generalize (Real.cos (s / 2) : ℂ) = cs
  generalize (Real.sin (s / 2) : ℂ) = ss
  generalize (Real.cos (t / 2) : ℂ) = ct
  generalize (Real.sin (t / 2) : ℂ) = st
  -- each entry: the cross terms collect `−ss·st·(P²)ᵢⱼ`, and `P² = 1`, `i² = −1`
  refine ⟨?_, ?_, ?_, ?_⟩
  · linear_combination (Complex.I * Complex.I * ss * st) * ha + (ss * st) * I2
  · linear_combination (Complex.I * Complex.I * ss * st) * hb
  · linear_combination (Complex.I * Complex.I * ss * st) * hc
  · linear_combination (Complex.I * Complex.I * ss * st) * hd + (ss * st) * I2

end BlochVerif.Sim
