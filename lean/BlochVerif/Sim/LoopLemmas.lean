import BlochVerif.Sim.SpecCore
/-!
# What the remaining loops of the simulator compute (core-only, any scalar type)

`allocateQubit` (copy into the lower half, zero the upper half), the collapse loop shared by
`measure` and `reset`, and the move-down loop of `reset`.  The `mass` loop needs `Finset.sum` to state what it computes
and is in `Sim/Complex.lean` (`mass_eq_massSpec`).
-/
namespace BlochVerif.Sim

section
variable {K R : Type} [Inhabited K]

/-- `allocateQubit`: the new vector is `ψ ⊗ |0⟩` -/
theorem allocate_amps (o : ROps K R) (st : State K R) :
    ∀ k, k < 2 * st.amps.size →
      (allocate o st).1.amps[k]! = if k < st.amps.size then st.amps[k]! else o.kzero := by
  have hsz : (Array.replicate (st.amps.size * 2) o.kzero).size = 2 * st.amps.size := by
    rw [Array.size_replicate, Nat.mul_comm]
  have hown : ∀ k, k < 2 * st.amps.size → (if k < st.amps.size then k else k - st.amps.size) < st.amps.size := by
    intro k hk; split <;> omega
  refine And.right (a := (allocate o st).1.amps.size = 2 * st.amps.size) ?_
  unfold allocate
  simp only
  -- iteration `i` writes cells `i` and `i + size`
  refine forRange_cells (fun k => if k < st.amps.size then k else k - st.amps.size)
    (fun k => if k < st.amps.size then st.amps[k]! else o.kzero) hsz
    (fun k hk => if_pos (hown k hk)) ?_
  intro t ns ht hs _
  refine two_cells ns t (t + st.amps.size) hs (by omega) (by omega) (fun k => ?_)
    (by rw [if_pos ht]) (by rw [if_neg (by omega)])
  split <;> omega

theorem collapse_spec (o : ROps K R) (arr : Array K) (q : Nat) (res : Bool) (norm : R) :
    ∀ k, k < arr.size →
      (collapse o arr q res norm)[k]! =
        if k.testBit q != res then o.kzero else o.divR arr[k]! norm := by
  refine And.right (a := (collapse o arr q res norm).size = arr.size) ?_
  unfold collapse
  refine forRange_cells (fun k => k) (fun k => if k.testBit q != res then o.kzero else o.divR arr[k]! norm) rfl
    (fun k hk => if_pos hk) ?_
  intro t st ht hs hst
  have hw : ∀ v : K, v = (if t.testBit q != res then o.kzero else o.divR arr[t]! norm) →
      (st.setIfInBounds t v).size = arr.size ∧ ∀ k, k < arr.size → (st.setIfInBounds t v)[k]! =
        if k = t then (if k.testBit q != res then o.kzero else o.divR arr[k]! norm) else st[k]! := by
    intro v hv
    refine ⟨by simp [hs], fun k hk => ?_⟩
    rw [rd_set _ _ _ _ (by omega), hv]
    by_cases e : k = t
    · rw [if_pos e, if_pos e, e]
    · rw [if_neg e, if_neg e]
  split
  · exact hw _ (by rw [if_pos ‹_›])
  · exact hw _ (by rw [if_neg ‹_›, hst t ht rfl])

theorem swapDown_spec (o : ROps K R) (arr : Array K) (n q : Nat) (hsize : arr.size = 2 ^ n)
    (hq : q < n) :
    ∀ k, k < arr.size →
      (swapDown o arr q)[k]! = if k.testBit q then o.kzero else arr[k ^^^ 2 ^ q]! := by
  have hx : ∀ k, k < arr.size → k ^^^ 2 ^ q < arr.size := by
    intro k hk; rw [hsize] at *
    exact xor_two_pow_lt hq hk
  -- cell `k` is written by the iteration at the index of its pair that has bit `q` set
  have hown : ∀ k, k < arr.size → (if k.testBit q then k else k ^^^ 2 ^ q) < arr.size := by
    intro k hk; split
    · exact hk
    · exact hx k hk
  have hbit : ∀ k : Nat, (if k.testBit q then k else k ^^^ 2 ^ q).testBit q = true := by
    intro k; split
    · assumption
    · rw [testBit_xor_two_pow_self]; simp_all
  refine And.right (a := (swapDown o arr q).size = arr.size) ?_
  unfold swapDown
  refine forRange_cells (fun k => if k.testBit q then k else k ^^^ 2 ^ q)
    (fun k => if k.testBit q then o.kzero else arr[k ^^^ 2 ^ q]!) rfl
    (fun k hk => if_pos (hown k hk)) ?_
  intro t st ht hs hst
  rw [Nat.one_shiftLeft]
  cases hb : t.testBit q
  · refine ⟨hs, fun k _ => (if_neg ?_).symm⟩
    intro e
    rw [← e, hbit k] at hb; cases hb
  · have hcur : st[t]! = arr[t]! := hst t ht (by rw [if_pos hb])
    rw [if_pos rfl]
    refine two_cells st (t ^^^ 2 ^ q) t hs (hx t ht) ht (fun k => ?_)
      (by rw [testBit_xor_two_pow_self, hb, if_neg (by simp), xor_two_pow_cancel, hcur]) (by rw [if_pos hb])
    constructor
    · split
      · exact .inr
      · exact fun e => .inl (by rw [← e, xor_two_pow_cancel])
    · rintro (rfl | rfl)
      · rw [testBit_xor_two_pow_self, hb, if_neg (by simp), xor_two_pow_cancel]
      · rw [if_pos hb]

/-- `mass` is a left fold over the indices in increasing order (the C++ accumulation order) -/
theorem mass_eq_foldl (o : ROps K R) (arr : Array K) (q : Nat) (b : Bool) :
    mass o arr q b = (List.range arr.size).foldl
      (fun acc i => if i.testBit q == b then o.add acc (o.normSq arr[i]!) else acc) o.zero := by
  unfold mass; rw [forRange_eq_foldl]

end
end BlochVerif.Sim
