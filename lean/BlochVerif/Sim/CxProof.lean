import BlochVerif.Sim.SpecCore
/-!
# The triple loop of `QasmSimulator::cx` is the controlled-NOT permutation

Each pair with control bit 1 is swapped exactly once, everything else is untouched.  The proof is bitwise: the index
`block | mid | lowOffset` is characterised bit by bit (`testBit_cxBase`), an index has three coordinates (its bits above
`high`, between, below `low`), each loop level owns the cells with the control bit set and one more coordinate fixed
(`forStep_cells`), and an innermost iteration owns a pair along the target bit, like an iteration of the one-qubit loop,
and exchanges it (`cx_swap_step`); the cells with the control bit clear are owned by no iteration.
-/
namespace BlochVerif.Sim

/-- `base` of `cxLoop` in iteration `tb`, `bb`, `l` of its three loops -/
def cxBase (low high tb bb l : Nat) : Nat := tb * 2 ^ (high + 1) ||| bb <<< (low + 1) ||| l

theorem testBit_false_of_lt_of_le {x m i : Nat} (h : x < 2 ^ m) (hi : m ≤ i) :
    x.testBit i = false :=
  Nat.testBit_lt_two_pow (Nat.lt_of_lt_of_le h (Nat.pow_le_pow_right (by omega) hi))

theorem testBit_cxBase (low high tb bb l i : Nat) (hlh : low < high)
    (hbb : bb < 2 ^ (high - low - 1)) (hl : l < 2 ^ low) :
    (cxBase low high tb bb l).testBit i =
      if high < i then tb.testBit (i - (high + 1))
      else if i = high then false
      else if low < i then bb.testBit (i - (low + 1))
      else if i = low then false
      else l.testBit i := by
  -- `bb <<< (low + 1)` has no bit from `high` up, `l` none from `low` up
  have e1 : high ≤ i → bb.testBit (i - (low + 1)) = false := fun h => testBit_false_of_lt_of_le hbb (by omega)
  have e2 : low ≤ i → l.testBit i = false := testBit_false_of_lt_of_le hl
  unfold cxBase
  simp only [Nat.testBit_or, Nat.testBit_shiftLeft, Nat.testBit_mul_two_pow]
  by_cases h1 : high < i
  · simp [h1, e1 (by omega), e2 (by omega), show i ≥ high + 1 by omega]
  · by_cases h2 : i = high
    · subst h2
      simp [e1 (by omega), e2 (by omega)]
      omega
    · have d1 : ¬ i ≥ high + 1 := by omega
      by_cases h3 : low < i
      · simp [h1, h2, h3, d1, e2 (by omega), show i ≥ low + 1 by omega]
      · by_cases h4 : i = low
        · subst h4
          simp [h1, h2, d1, e2 (by omega)]
          omega
        · simp [h1, h2, h3, h4, d1, show ¬ i ≥ low + 1 by omega]

/-- the three coordinates of an index: bits above `high`, strictly between, below `low` -/
def cA (high k : Nat) : Nat := k >>> (high + 1)
def cB (low high k : Nat) : Nat := (k >>> (low + 1)) % 2 ^ (high - low - 1)
def cL (low k : Nat) : Nat := k % 2 ^ low

section
variable (low high tb bb l : Nat) (hlh : low < high)
  (hbb : bb < 2 ^ (high - low - 1)) (hl : l < 2 ^ low)
include hlh hbb hl

theorem coords_iff (k : Nat) : (cA high k = tb ∧ cB low high k = bb ∧ cL low k = l) ↔
    ∀ i, i ≠ low → i ≠ high → k.testBit i = (cxBase low high tb bb l).testBit i := by
  constructor
  · rintro ⟨h1, h2, h3⟩ i hi1 hi2
    rw [testBit_cxBase low high tb bb l _ hlh hbb hl]
    by_cases c1 : high < i
    · rw [if_pos c1, ← h1]; unfold cA; rw [Nat.testBit_shiftRight]; congr 1; omega
    · rw [if_neg c1, if_neg hi2]
      by_cases c3 : low < i
      · rw [if_pos c3, ← h2]; unfold cB
        rw [Nat.testBit_mod_two_pow, Nat.testBit_shiftRight]
        have : i - (low + 1) < high - low - 1 := by omega
        simp only [this, decide_true, Bool.true_and]
        congr 1; omega
      · rw [if_neg c3, if_neg hi1, ← h3]; unfold cL
        rw [Nat.testBit_mod_two_pow]
        have : i < low := by omega
        simp [this]
  · intro hk
    refine ⟨?_, ?_, ?_⟩
    · apply Nat.eq_of_testBit_eq; intro j
      unfold cA
      rw [Nat.testBit_shiftRight, hk _ (by omega) (by omega),
        testBit_cxBase low high tb bb l _ hlh hbb hl, if_pos (by omega)]
      congr 1; omega
    · apply Nat.eq_of_testBit_eq; intro j
      unfold cB
      rw [Nat.testBit_mod_two_pow, Nat.testBit_shiftRight]
      by_cases hj : j < high - low - 1
      · rw [hk _ (by omega) (by omega), testBit_cxBase low high tb bb l _ hlh hbb hl,
          if_neg (by omega), if_neg (by omega), if_pos (by omega)]
        simp only [hj, decide_true, Bool.true_and]
        congr 1; omega
      · simp only [hj, decide_false, Bool.false_and]
        exact (testBit_false_of_lt_of_le hbb (by omega)).symm
    · apply Nat.eq_of_testBit_eq; intro j
      unfold cL
      rw [Nat.testBit_mod_two_pow]
      by_cases hj : j < low
      · rw [hk _ (by omega) (by omega), testBit_cxBase low high tb bb l _ hlh hbb hl,
          if_neg (by omega), if_neg (by omega), if_neg (by omega), if_neg (by omega)]
        simp [hj]
      · simp only [hj, decide_false, Bool.false_and]
        exact (testBit_false_of_lt_of_le hl (by omega)).symm

end

section loop
variable {K : Type} [Inhabited K]

theorem rd_swap (a : Array K) (i j k : Nat) (hi : i < a.size) (hj : j < a.size) (hij : i ≠ j) :
    (swapCells a i j)[k]! = if k = i then a[j]! else if k = j then a[i]! else a[k]! := by
  unfold swapCells
  rw [rd_set _ _ _ _ (by simp; omega), rd_set _ _ _ _ hi]
  by_cases h1 : k = j
  · rw [if_pos h1, if_neg (by omega), if_pos h1]
  · rw [if_neg h1, if_neg h1]

theorem cA_lt_iff (high cnt k : Nat) : cA high k < cnt ↔ k < cnt * 2 ^ (high + 1) := by
  unfold cA
  rw [Nat.shiftRight_eq_div_pow, Nat.div_lt_iff_lt_mul (Nat.two_pow_pos _)]

theorem cB_lt (low high k : Nat) : cB low high k < 2 ^ (high - low - 1) :=
  Nat.mod_lt _ (Nat.two_pow_pos _)

theorem cL_lt (low k : Nat) : cL low k < 2 ^ low := Nat.mod_lt _ (Nat.two_pow_pos _)

/-- one iteration of the innermost loop: of the four cells with coordinates `(tb, bb, l)` it owns the two with the
control bit set, a pair along the target bit, and exchanges them, which is `cxSpec` on both -/
theorem cx_swap_step (arr : Array K) (n c t low high : Nat) (hsize : arr.size = 2 ^ n)
    (hlh : low < high) (hhn : high < n) (hct : (c = low ∧ t = high) ∨ (c = high ∧ t = low))
    (tb bb l : Nat) (htb : tb < 2 ^ (n - high - 1)) (hbb : bb < 2 ^ (high - low - 1))
    (hl : l < 2 ^ low) (st : Array K) (hs : st.size = arr.size)
    (hst : ∀ k, k < arr.size → k.testBit c = true ∧ cA high k = tb ∧ cB low high k = bb ∧ cL low k = l →
      st[k]! = arr[k]!) :
    (swapCells st (cxBase low high tb bb l ||| 2 ^ c) (cxBase low high tb bb l ||| 2 ^ c ||| 2 ^ t)).size = arr.size ∧
    ∀ k, k < arr.size →
      (swapCells st (cxBase low high tb bb l ||| 2 ^ c) (cxBase low high tb bb l ||| 2 ^ c ||| 2 ^ t))[k]! =
        if k.testBit c = true ∧ cA high k = tb ∧ cB low high k = bb ∧ cL low k = l then cxSpec (absArr arr) c t k
        else st[k]! := by
  -- the cells with these coordinates are the four indices that agree with the base index off bits `c`, `t`
  have coords : ∀ x, (cA high x = tb ∧ cB low high x = bb ∧ cL low x = l) ↔
      ∀ i, i ≠ c → i ≠ t → x.testBit i = (cxBase low high tb bb l).testBit i := by
    intro x
    rcases hct with ⟨rfl, rfl⟩ | ⟨rfl, rfl⟩
    · exact coords_iff _ _ tb bb l hlh hbb hl x
    · exact (coords_iff _ _ tb bb l hlh hbb hl x).trans
        ⟨fun h i h1 h2 => h i h2 h1, fun h i h1 h2 => h i h2 h1⟩
  have base_t : (cxBase low high tb bb l).testBit t = false := by
    rw [testBit_cxBase low high tb bb l _ hlh hbb hl]
    rcases hct with ⟨rfl, rfl⟩ | ⟨rfl, rfl⟩ <;> simp <;> omega
  have hne : c ≠ t := by omega
  generalize hi0 : cxBase low high tb bb l ||| 2 ^ c = i0
  have tb0 : ∀ i, i0.testBit i = ((cxBase low high tb bb l).testBit i || decide (c = i)) := by
    intro i; rw [← hi0, Nat.testBit_or, Nat.testBit_two_pow]
  have i0c : i0.testBit c = true := by rw [tb0]; simp
  have i0t : i0.testBit t = false := by rw [tb0, base_t]; simp [hne]
  -- of these the two with the control bit set are `i0` and its partner along the target bit
  have hown : ∀ k, (k.testBit c = true ∧ cA high k = tb ∧ cB low high k = bb ∧ cL low k = l) ↔
      k = i0 ∨ k = i0 ^^^ 2 ^ t := by
    intro k
    rw [← agreeOff_iff t i0 k]
    constructor
    · rintro ⟨kc, hk⟩ i hi
      by_cases hic : i = c
      · rw [hic, i0c, kc]
      · rw [tb0, (coords k).mp hk i hic hi]; simp [Ne.symm hic]
    · intro h
      refine ⟨?_, (coords k).mpr fun i h1 h2 => ?_⟩
      · rw [← h c hne, i0c]
      · rw [← h i h2, tb0]; simp [Ne.symm h1]
  have bound : ∀ x, x = i0 ∨ x = i0 ^^^ 2 ^ t → x < arr.size := by
    intro x hx
    rw [hsize, show n = (n - high - 1) + (high + 1) by omega, Nat.pow_add, ← cA_lt_iff, ((hown x).mpr hx).2.1]
    exact htb
  rw [or_two_pow_eq_xor i0t]
  refine two_cells st i0 (i0 ^^^ 2 ^ t) hs (bound _ (.inl rfl)) (bound _ (.inr rfl)) hown ?_ ?_
  · rw [hst _ (bound _ (.inr rfl)) ((hown _).mpr (.inr rfl))]
    unfold cxSpec absArr
    rw [i0c, if_pos rfl]
  · rw [hst _ (bound _ (.inl rfl)) ((hown _).mpr (.inl rfl))]
    unfold cxSpec absArr
    rw [((hown (i0 ^^^ 2 ^ t)).mpr (.inr rfl)).1, if_pos rfl, xor_two_pow_cancel]

/-- **The triple loop of `QasmSimulator::cx` is the controlled-NOT permutation**, for every
    register size `n`, every ordered pair of distinct qubits below `n`, every amplitude vector. -/
theorem cxLoop_eq_cxSpec (arr : Array K) (n c t : Nat) (hsize : arr.size = 2 ^ n)
    (hc : c < n) (ht : t < n) (hct : c ≠ t) :
    ∀ k, k < arr.size → (cxLoop arr c t)[k]! = cxSpec (absArr arr) c t k := by
  refine And.right (a := (cxLoop arr c t).size = arr.size) ?_
  unfold cxLoop
  obtain ⟨low, high, hlh, hctl, hlow, hhigh⟩ : ∃ low high, low < high ∧
      ((c = low ∧ t = high) ∨ (c = high ∧ t = low)) ∧ min c t = low ∧ max c t = high := by
    rcases Nat.lt_or_gt_of_ne hct with h | h
    · exact ⟨c, t, h, .inl ⟨rfl, rfl⟩, Nat.min_eq_left (Nat.le_of_lt h), Nat.max_eq_right (Nat.le_of_lt h)⟩
    · exact ⟨t, c, h, .inr ⟨rfl, rfl⟩, Nat.min_eq_right (Nat.le_of_lt h), Nat.max_eq_left (Nat.le_of_lt h)⟩
  rw [hlow, hhigh]
  have hhn : high < n := by omega
  have hbs : (if high > low + 1 then 2 ^ (high - low - 1) else 1) = 2 ^ (high - low - 1) := by
    split
    · rfl
    · rw [show high - low - 1 = 0 by omega]
  -- which of `low`, `high` is the control is settled once, outside the loops
  have hor : ∀ b, (if (c == low) = true then b ||| 2 ^ low else b ||| 2 ^ high) = b ||| 2 ^ c ∧
      (if (c == low) = true then b ||| 2 ^ high else b ||| 2 ^ low) = b ||| 2 ^ t := by
    intro b
    rcases hctl with ⟨rfl, rfl⟩ | ⟨rfl, rfl⟩
    · rw [if_pos (beq_self_eq_true c), if_pos (beq_self_eq_true c)]; exact ⟨rfl, rfl⟩
    · rw [if_neg (by simp; omega), if_neg (by simp; omega)]; exact ⟨rfl, rfl⟩
  simp only [Nat.one_shiftLeft, hbs, (hor _).1, (hor _).2]
  have hcnt : arr.size = 2 ^ (n - high - 1) * 2 ^ (high + 1) := by
    rw [hsize, ← Nat.pow_add]; congr 1; omega
  -- only cells with the control bit set are ever written; each loop level fixes one more coordinate of the cells it owns
  refine forStep_cells (fun k => if k.testBit c then cA high k else 2 ^ (n - high - 1)) (cxSpec (absArr arr) c t)
    hcnt (Nat.two_pow_pos _) rfl (fun k hk => ?_) ?_
  · rw [ite_congr (propext (owner_lt_iff ((cA_lt_iff _ _ k).mpr (hcnt ▸ hk)))) (fun _ => rfl) (fun _ => rfl)]
    unfold cxSpec absArr
    split <;> rfl
  intro tb st htb hs hst
  refine forRange_cells_sub (cB low high) hs (cB_lt low high) ?_
  intro bb st' hbb hs' hst'
  refine forRange_cells_sub (cL low) hs' (cL_lt low) ?_
  intro l st'' hl hs'' hst''
  -- the owner conditions of the three levels, flattened to the one conjunction of `cx_swap_step`, whose `cxBase` unfolds
  -- to the index of the goal
  simp only [owner_eq_iff htb, and_assoc] at hst hst' hst'' ⊢
  exact cx_swap_step arr n c t low high hsize hlh hhn hctl tb bb l htb hbb hl st'' hs''
    (fun k hk h => by rw [hst'' k hk h, hst' k hk ⟨h.1, h.2.1, h.2.2.1⟩, hst k hk ⟨h.1, h.2.1⟩])

end loop
end BlochVerif.Sim
