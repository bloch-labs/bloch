import BlochVerif.Sim.Norm
import Mathlib.Algebra.BigOperators.Field
/-!
# Measurement and reset over exact amplitudes (C02, C04), and the state invariant (C03)

The invariant `WF`, and what a measurement and a reset leave on the branch the draw selects: `collapseSpec`, `resetSpec`.
A reset is a measurement followed, on outcome 1, by moving the `|1⟩` half down, so `resetSpec` is `collapseSpec` up to
that move (`resetSpec_eq`) and the facts about reset come from those about measurement.
-/
namespace BlochVerif.Sim
open Finset

/-- well-formed simulator state: `2^n` amplitudes of unit norm, one flag per qubit -/
structure WF (st : State ℂ ℝ) : Prop where
  size : st.amps.size = 2 ^ st.n
  norm : nrm2 (absArr st.amps) (2 ^ st.n) = 1
  flags : st.measured.size = st.n

/-- the normalised projection of `ψ` onto `bit q = b` -/
noncomputable def collapseSpec (ψ : ℕ → ℂ) (N q : ℕ) (b : Bool) (k : ℕ) : ℂ :=
  if k.testBit q = b then ψ k / ((Real.sqrt (massSpec ψ N q b) : ℝ) : ℂ) else 0

/-- the post-state of `reset` on branch `b`: target in `|0⟩`, rest = the normalised `b`-branch -/
noncomputable def resetSpec (ψ : ℕ → ℂ) (N q : ℕ) (b : Bool) (k : ℕ) : ℂ :=
  if k.testBit q then 0
  else (if b then ψ (k ^^^ 2 ^ q) else ψ k) / ((Real.sqrt (massSpec ψ N q b) : ℝ) : ℂ)

theorem normSq_div_sqrt (z : ℂ) (p : ℝ) (hp : 0 ≤ p) :
    Complex.normSq (z / ((Real.sqrt p : ℝ) : ℂ)) = Complex.normSq z / p := by
  rw [map_div₀, Complex.normSq_ofReal, Real.mul_self_sqrt hp]

theorem massSpec_collapse (ψ : ℕ → ℂ) (N q : ℕ) (b b' : Bool) (hp : 0 < massSpec ψ N q b) :
    massSpec (collapseSpec ψ N q b) N q b' = if b' = b then 1 else 0 := by
  unfold massSpec collapseSpec
  by_cases e : b' = b
  · subst e
    rw [if_pos rfl]
    have : ∀ k ∈ range N, (if k.testBit q = b' then Complex.normSq
        (if k.testBit q = b' then ψ k / ((Real.sqrt (massSpec ψ N q b') : ℝ) : ℂ) else 0) else 0) =
        (if k.testBit q = b' then Complex.normSq (ψ k) else 0) / massSpec ψ N q b' := by
      intro k _
      by_cases h : k.testBit q = b'
      · simp only [h, if_true]; exact normSq_div_sqrt _ _ (le_of_lt hp)
      · simp [h]
    rw [Finset.sum_congr rfl this, ← Finset.sum_div]
    exact div_self (ne_of_gt hp)
  · rw [if_neg e]
    exact (massSpec_eq_zero_iff _ N q b').mpr fun k _ h => if_neg fun h' => e (h ▸ h')

theorem nrm2_collapse (ψ : ℕ → ℂ) (N q : ℕ) (b : Bool) (hp : 0 < massSpec ψ N q b) :
    nrm2 (collapseSpec ψ N q b) N = 1 := by
  rw [← massSpec_add _ N q, massSpec_collapse ψ N q b true hp, massSpec_collapse ψ N q b false hp]
  cases b <;> simp

theorem massSpec_flip (ψ : ℕ → ℂ) (n q : ℕ) (hq : q < n) :
    (∑ k ∈ range (2 ^ n), if k.testBit q = false then Complex.normSq (ψ (k ^^^ 2 ^ q)) else 0) =
      massSpec ψ (2 ^ n) q true := by
  unfold massSpec
  rw [← sum_xor_reindex (fun k => if k.testBit q = true then Complex.normSq (ψ k) else 0) n q hq]
  apply Finset.sum_congr rfl
  intro k _
  simp only [testBit_xor_two_pow_self]
  cases k.testBit q <;> simp

theorem resetSpec_eq (ψ : ℕ → ℂ) (N q : ℕ) (b : Bool) (k : ℕ) :
    resetSpec ψ N q b k =
      if b then (if k.testBit q then 0 else collapseSpec ψ N q true (k ^^^ 2 ^ q)) else collapseSpec ψ N q false k := by
  unfold resetSpec collapseSpec
  rw [testBit_xor_two_pow_self]
  cases b <;> cases k.testBit q <;> simp

theorem nrm2_reset (ψ : ℕ → ℂ) (n q : ℕ) (hq : q < n) (b : Bool)
    (hp : 0 < massSpec ψ (2 ^ n) q b) : nrm2 (resetSpec ψ (2 ^ n) q b) (2 ^ n) = 1 := by
  cases b
  · rw [← nrm2_collapse ψ (2 ^ n) q false hp]
    exact congrArg (nrm2 · _) (funext fun k => resetSpec_eq ψ _ q false k)
  · have h1 := massSpec_collapse ψ (2 ^ n) q true true hp
    rw [if_pos rfl, ← massSpec_flip _ n q hq] at h1
    rw [← h1]
    refine Finset.sum_congr rfl fun k _ => ?_
    rw [resetSpec_eq]
    cases k.testBit q <;> simp

/-- positivity of the branch that the draw selects: this is where `r ∈ [0,1)` and `‖ψ‖ = 1` are used -/
theorem branch_pos (ψ : ℕ → ℂ) (N q : ℕ) (hn : nrm2 ψ N = 1) (r : ℝ) (hr0 : 0 ≤ r) (hr1 : r < 1) :
    0 < massSpec ψ N q (decide (r < massSpec ψ N q true)) := by
  by_cases h : r < massSpec ψ N q true
  · simp only [h, decide_true]; linarith
  · simp only [h, decide_false]
    have := massSpec_add ψ N q
    linarith

theorem branch_norm (ψ : ℕ → ℂ) (N q : ℕ) (hn : nrm2 ψ N = 1) (b : Bool) :
    (if b then massSpec ψ N q true else 1 - massSpec ψ N q true) = massSpec ψ N q b := by
  have := massSpec_add ψ N q
  cases b
  · simp only [Bool.false_eq_true, if_false]; linarith
  · simp

/-- **Born rule**: on a unit vector the simulator's test `r·(p₀+p₁) < p₁` is `r < p₁ = ‖P₁ψ‖²` -/
theorem measureCore_outcome (st : State ℂ ℝ) (hw : WF st) (q : ℕ) (r : ℝ) :
    (measureCore complexOps st q r).2 = decide (r < massSpec (absArr st.amps) (2 ^ st.n) q true) := by
  have htot : massSpec (absArr st.amps) (2 ^ st.n) q false +
      massSpec (absArr st.amps) (2 ^ st.n) q true = 1 := by
    rw [add_comm, massSpec_add]; exact hw.norm
  rw [measureCore_snd, mass_eq_massSpec, mass_eq_massSpec, hw.size]
  show decide (r * (_ + _) < _) = _
  rw [htot, mul_one]

/-- **Collapse**: the post-measurement wave function is the normalised projection onto the outcome -/
theorem measureCore_abs (st : State ℂ ℝ) (hw : WF st) (q : ℕ) (r : ℝ) :
    absArr (measureCore complexOps st q r).1.amps =
      collapseSpec (absArr st.amps) (2 ^ st.n) q (measureCore complexOps st q r).2 := by
  generalize hb : (measureCore complexOps st q r).2 = b
  have hnorm : complexOps.sqrt (if b then mass complexOps st.amps q true else mass complexOps st.amps q false) =
      Real.sqrt (massSpec (absArr st.amps) (2 ^ st.n) q b) := by
    rw [mass_eq_massSpec, mass_eq_massSpec, hw.size]
    cases b <;> rfl
  apply absArr_eq
  · intro k hk
    rw [measureCore_amps, hb, hnorm, collapse_spec complexOps st.amps q b _ k (by simpa using hk)]
    unfold collapseSpec absArr
    cases k.testBit q <;> cases b <;> simp [complexOps]
  · intro k hk
    unfold collapseSpec
    rw [absArr_of_size_le st.amps (by simpa using hk)]
    simp

/-- **`reset` on exact amplitudes**: the target ends in `|0⟩` and the rest of the register is the
    normalised branch selected by the draw. -/
theorem resetCore_abs (st : State ℂ ℝ) (hw : WF st) (q : ℕ) (hq : q < st.n) (r : ℝ) :
    absArr (resetCore complexOps st q r).1.amps =
      resetSpec (absArr st.amps) (2 ^ st.n) q (resetCore complexOps st q r).2 := by
  have hsz : (measureCore complexOps st q r).1.amps.size = 2 ^ st.n := by
    rw [measureCore_amps_size, hw.size]
  have hm := measureCore_abs st hw q r
  funext k
  rw [resetSpec_eq, resetCore_snd, resetCore_amps]
  cases hb : (measureCore complexOps st q r).2
  · rw [hb] at hm
    rw [if_neg (by simp), if_neg (by simp), hm]
  · rw [hb] at hm
    rw [if_pos rfl, if_pos rfl, ← hm]
    by_cases hk : k < 2 ^ st.n
    · exact swapDown_spec complexOps _ st.n q hsz hq k (by rw [hsz]; exact hk)
    · rw [absArr_of_size_le _ (by rw [swapDown_size, hsz]; omega),
        absArr_of_size_le _ (by rw [hsz]; exact xor_two_pow_ge hq (by omega))]
      simp

end BlochVerif.Sim
