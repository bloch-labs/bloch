import BlochVerif.Sim.Ops
/-!
# The index-level specification of the gates, and the loop proofs (core-only, any scalar type)

The theorems (here for `applySingle`, in `Sim/CxProof.lean` for `cxLoop`) say the *loops* of `qasm_simulator.cpp` compute
exactly `gateSpecX` and `cxSpec`, for every register size, every index and every amplitude vector, over any type with
`+` and `*` (no ring law is used: the statements are about which cell receives which expression).  They all go through
one rule, `forStep_cells`: every cell is rewritten by one iteration, its owner.  The iterations of the gate loops, of
`allocate` and of `swapDown` write two cells each (`two_cells`); for the gates these are a pair along one qubit.
-/
namespace BlochVerif.Sim

section
variable {K : Type} [Add K] [Mul K]

/-- The `k`-th amplitude of `(I ⊗ … ⊗ M ⊗ … ⊗ I) ψ` with `M` on tensor factor `q` (little-endian: qubit `q` is bit `q` of
the basis index): row `bit q of k` of `M` applied to the pair `(ψ (k with bit q cleared), ψ (k with bit q set))`, the
partner index written as a bit flip, `k ^^^ 2 ^ q` (the `X` of the name: xor). -/
def gateSpecX (ψ : Nat → K) (q : Nat) (m : Mat2 K) (k : Nat) : K :=
  if k.testBit q then m.c * ψ (k ^^^ 2 ^ q) + m.d * ψ k
  else m.a * ψ k + m.b * ψ (k ^^^ 2 ^ q)

/-- the permutation `|x⟩ ↦ |x xor (x_c · 2^t)⟩` -/
def cxSpec (ψ : Nat → K) (c t : Nat) (k : Nat) : K :=
  ψ (if k.testBit c then k ^^^ 2 ^ t else k)

end

/-- the array as a function of the index, `default` beyond the end -/
def absArr {K : Type} [Inhabited K] (a : Array K) : Nat → K := fun k => a[k]!

theorem xor_two_pow_ne (k q : Nat) : k ^^^ 2 ^ q ≠ k := by
  intro h
  have := congrArg (fun x => x.testBit q) h
  simp [Nat.testBit_xor] at this

theorem xor_two_pow_cancel (k q : Nat) : (k ^^^ 2 ^ q) ^^^ 2 ^ q = k := by
  rw [Nat.xor_assoc, Nat.xor_self, Nat.xor_zero]

theorem testBit_xor_two_pow_self (k q : Nat) : (k ^^^ 2 ^ q).testBit q = !k.testBit q := by
  rw [Nat.testBit_xor, Nat.testBit_two_pow]; simp

theorem xor_two_pow_lt {n q k : Nat} (hq : q < n) (hk : k < 2 ^ n) : k ^^^ 2 ^ q < 2 ^ n :=
  Nat.xor_lt_two_pow hk (Nat.pow_lt_pow_right (by omega) hq)

theorem xor_two_pow_ge {n q k : Nat} (hq : q < n) (hk : 2 ^ n ≤ k) : 2 ^ n ≤ k ^^^ 2 ^ q := by
  apply Nat.le_of_not_lt; intro h
  have := xor_two_pow_lt hq h
  rw [xor_two_pow_cancel] at this
  omega

theorem or_two_pow_eq_xor {k q : Nat} (h : k.testBit q = false) : k ||| 2 ^ q = k ^^^ 2 ^ q := by
  apply Nat.eq_of_testBit_eq; intro i
  rw [Nat.testBit_or, Nat.testBit_xor, Nat.testBit_two_pow]
  by_cases e : q = i
  · rw [← e, h, Bool.false_or, Bool.false_xor]
  · simp [e]

theorem eq_of_testBit_off {x y q : Nat} (h : ∀ i, i ≠ q → x.testBit i = y.testBit i)
    (hq : x.testBit q = y.testBit q) : x = y := by
  apply Nat.eq_of_testBit_eq; intro i
  by_cases e : i = q
  · rw [e, hq]
  · exact h i e

/-- `k` and `j` agree on every bit except possibly bit `q` -/
def agreeOff (q k j : Nat) : Prop := ∀ i, i ≠ q → k.testBit i = j.testBit i

/-- the indices that agree with `k` off bit `q` are `k` and its partner -/
theorem agreeOff_iff (q k j : Nat) : agreeOff q k j ↔ (j = k ∨ j = k ^^^ 2 ^ q) := by
  have off : ∀ i, i ≠ q → (k ^^^ 2 ^ q).testBit i = k.testBit i := fun i hi => by
    rw [Nat.testBit_xor, Nat.testBit_two_pow]; simp [Ne.symm hi]
  constructor
  · intro h
    by_cases hq : j.testBit q = k.testBit q
    · exact .inl (eq_of_testBit_off (fun i e => (h i e).symm) hq)
    · have hq' : j.testBit q = (k ^^^ 2 ^ q).testBit q := by
        rw [testBit_xor_two_pow_self]; exact Bool.eq_not_of_ne hq
      exact .inr (eq_of_testBit_off (fun i e => (h i e).symm.trans (off i e).symm) hq')
  · rintro (rfl | rfl) i hi
    · rfl
    · exact (off i hi).symm

section
variable {K : Type} [Inhabited K]

theorem rd_set (a : Array K) (i k : Nat) (v : K) (hi : i < a.size) :
    (a.setIfInBounds i v)[k]! = if k = i then v else a[k]! := by
  by_cases h : k = i
  · subst h; simp [hi]
  · rw [if_neg h, getElem!_def, getElem!_def, Array.getElem?_setIfInBounds_ne (Ne.symm h)]

/-- **The rule for every array loop of the simulator.**  Each cell `k` is written by one iteration, its owner `own k`
(by none if `own k ≥ cnt`), which puts `new k` there and may assume that its cells still hold what `arr` held.  `res`
is the outcome in the form the caller wants it, and the size is part of the conclusion, so that a nested loop is an
instance with the array at its start for `arr`, the size of the outermost array for `n` and the outer `new`: its
conclusion is then the outer `hbody`.  A caller that wants the cells alone takes `And.right`. -/
theorem forStep_cells {n : Nat} (own : Nat → Nat) (new : Nat → K) {res : Nat → K} {stop step cnt : Nat}
    (hstop : stop = cnt * step) (hstep : 0 < step) {body : Nat → Array K → Array K} {arr : Array K} (hn : arr.size = n)
    (hres : ∀ k, k < n → (if own k < cnt then new k else arr[k]!) = res k)
    (hbody : ∀ t st, t < cnt → st.size = n → (∀ k, k < n → own k = t → st[k]! = arr[k]!) →
      (body (t * step) st).size = n ∧
      ∀ k, k < n → (body (t * step) st)[k]! = if own k = t then new k else st[k]!) :
    (forStep stop step body 0 arr).size = n ∧ ∀ k, k < n → (forStep stop step body 0 arr)[k]! = res k := by
  subst hstop
  have := forStep_mul_inv step cnt hstep body
    (fun t st => st.size = n ∧ ∀ k, k < n → st[k]! = if own k < t then new k else arr[k]!)
    (by
      intro t st ht ⟨hs, hv⟩
      obtain ⟨hs', hv'⟩ := hbody t st ht hs (fun k hk ho => by rw [hv k hk, if_neg (by omega)])
      refine ⟨hs', fun k hk => ?_⟩
      rw [hv' k hk]
      by_cases ho : own k = t
      · rw [if_pos ho, if_pos (by omega)]
      · rw [if_neg ho, hv k hk]
        by_cases hlt : own k < t
        · rw [if_pos hlt, if_pos (by omega)]
        · rw [if_neg hlt, if_neg (by omega)])
    0 arr (Nat.zero_le _) ⟨hn, fun k _ => by rw [if_neg (Nat.not_lt_zero _)]⟩
  rw [Nat.zero_mul] at this
  exact ⟨this.1, fun k hk => (this.2 k hk).trans (hres k hk)⟩

theorem forRange_cells {n : Nat} (own : Nat → Nat) (new : Nat → K) {res : Nat → K} {cnt : Nat}
    {body : Nat → Array K → Array K} {arr : Array K} (hn : arr.size = n)
    (hres : ∀ k, k < n → (if own k < cnt then new k else arr[k]!) = res k)
    (hbody : ∀ t st, t < cnt → st.size = n → (∀ k, k < n → own k = t → st[k]! = arr[k]!) →
      (body t st).size = n ∧ ∀ k, k < n → (body t st)[k]! = if own k = t then new k else st[k]!) :
    (forRange cnt body arr).size = n ∧ ∀ k, k < n → (forRange cnt body arr)[k]! = res k :=
  forStep_cells own new (Nat.mul_one cnt).symm Nat.one_pos hn hres
    (fun t st => by rw [Nat.mul_one]; exact hbody t st)

/-- An iteration that writes two cells meets the `hbody` of `forStep_cells` if these are the cells it owns and each
receives its `new` value (`owned k` is the caller's `own k = t`). -/
theorem two_cells {n : Nat} (st : Array K) (i j : Nat) {vi vj : K} {owned : Nat → Prop} [DecidablePred owned]
    {new : Nat → K} (hs : st.size = n) (hi : i < n) (hj : j < n) (hown : ∀ k, owned k ↔ k = i ∨ k = j)
    (hvi : vi = new i) (hvj : vj = new j) :
    ((st.setIfInBounds i vi).setIfInBounds j vj).size = n ∧
    ∀ k, k < n → ((st.setIfInBounds i vi).setIfInBounds j vj)[k]! = if owned k then new k else st[k]! := by
  refine ⟨by simp [hs], fun k _ => ?_⟩
  rw [rd_set _ _ _ _ (by simp; omega), rd_set _ _ _ _ (by omega)]
  by_cases ej : k = j
  · rw [if_pos ej, if_pos ((hown k).mpr (.inr ej)), hvj, ej]
  · rw [if_neg ej]
    by_cases ei : k = i
    · rw [if_pos ei, if_pos ((hown k).mpr (.inl ei)), hvi, ei]
    · rw [if_neg ei, if_neg fun h => ((hown k).mp h).elim ei ej]

end

/-! The owner function of a loop nested inside iteration `p` of an outer one has the shape `if p then x else M`:
the inner iteration `x < M` for a cell of the outer iteration's block, out of range for any other cell. -/

theorem owner_lt_iff {p : Prop} [Decidable p] {x M : Nat} (hx : x < M) : (if p then x else M) < M ↔ p := by
  split
  · exact ⟨fun _ => ‹p›, fun _ => hx⟩
  · exact ⟨fun h => absurd h (Nat.lt_irrefl M), fun h => absurd h ‹¬p›⟩

theorem owner_eq_iff {p : Prop} [Decidable p] {x M b : Nat} (hb : b < M) : (if p then x else M) = b ↔ p ∧ x = b := by
  split
  · exact ⟨fun h => ⟨‹p›, h⟩, fun h => h.2⟩
  · exact ⟨fun h => absurd (h ▸ hb) (Nat.lt_irrefl M), fun h => absurd h.1 ‹¬p›⟩

/-- `forRange_cells` for a loop inside an iteration that owns the cells `p`: of these, cell `k` belongs to the inner
iteration `sub k`; the conclusion is the `hbody` of the enclosing loop. -/
theorem forRange_cells_sub {K : Type} [Inhabited K] {n : Nat} {p : Nat → Prop} [DecidablePred p] (sub : Nat → Nat)
    {new : Nat → K} {cnt : Nat} {body : Nat → Array K → Array K} {arr : Array K} (hn : arr.size = n)
    (hsub : ∀ k, sub k < cnt)
    (hbody : ∀ t st, t < cnt → st.size = n → (∀ k, k < n → p k ∧ sub k = t → st[k]! = arr[k]!) →
      (body t st).size = n ∧ ∀ k, k < n → (body t st)[k]! = if p k ∧ sub k = t then new k else st[k]!) :
    (forRange cnt body arr).size = n ∧ ∀ k, k < n → (forRange cnt body arr)[k]! = if p k then new k else arr[k]! :=
  forRange_cells (fun k => if p k then sub k else cnt) new hn
    (fun k _ => ite_congr (propext (owner_lt_iff (hsub k))) (fun _ => rfl) (fun _ => rfl))
    (fun t st ht hs hst => by
      simp only [owner_eq_iff ht] at hst ⊢
      exact hbody t st ht hs hst)

/-- `pairUpdate` reaches the partner of a cell by adding `2^q`, `gateSpecX` by flipping bit `q`: on the lower cell of a
pair, where bit `q` is clear, the two agree -/
theorem pair_flip (q t j : Nat) (hj : j < 2 ^ q) :
    (t * (2 * 2 ^ q) + j).testBit q = false ∧
    (t * (2 * 2 ^ q) + j) ^^^ 2 ^ q = t * (2 * 2 ^ q) + j + 2 ^ q := by
  have e0 : t * (2 * 2 ^ q) + j = 2 ^ q * (2 * t) + j := by
    rw [Nat.mul_left_comm, Nat.mul_comm t, Nat.mul_left_comm]
  have e1 : t * (2 * 2 ^ q) + j + 2 ^ q = 2 ^ q * (2 * t + 1) + j := by
    rw [e0, Nat.mul_add, Nat.mul_one]; omega
  rw [e1, e0]
  refine ⟨by simp [Nat.testBit_two_pow_mul_add _ hj], Nat.eq_of_testBit_eq fun i => ?_⟩
  rw [Nat.testBit_xor, Nat.testBit_two_pow, Nat.testBit_two_pow_mul_add _ hj,
    Nat.testBit_two_pow_mul_add _ hj]
  by_cases h1 : i < q
  · simp [h1, Nat.ne_of_gt h1]
  · obtain ⟨d, rfl⟩ : ∃ d, i = q + d := ⟨i - q, by omega⟩
    cases d with
    | zero => simp
    | succ d =>
      have e : (2 * t + 1) / 2 = 2 * t / 2 := by omega
      simp [Nat.testBit_succ, e]

/-- the cells whose block (of `2·s` cells) is the `t`-th and whose offset in their half of it is `j`: a pair -/
theorem pair_cells_iff {s t j k : Nat} (hj : j < s) :
    (k / (2 * s) = t ∧ k % s = j) ↔ (k = t * (2 * s) + j ∨ k = t * (2 * s) + j + s) := by
  have hmod : ∀ r, (t * (2 * s) + r) % s = r % s := fun r => by
    rw [← Nat.mul_assoc, Nat.mul_add_mod_self_right]
  rw [Nat.div_eq_iff (by omega : 0 < 2 * s)]
  constructor
  · rintro ⟨hd, hm⟩
    obtain ⟨r, rfl⟩ : ∃ r, k = t * (2 * s) + r := ⟨k - t * (2 * s), by omega⟩
    rw [hmod] at hm
    by_cases hr : r < s
    · rw [Nat.mod_eq_of_lt hr] at hm; exact .inl (by omega)
    · rw [Nat.mod_eq_sub_mod (by omega), Nat.mod_eq_of_lt (by omega)] at hm; exact .inr (by omega)
  · rintro (rfl | rfl)
    · exact ⟨by omega, by rw [hmod, Nat.mod_eq_of_lt hj]⟩
    · exact ⟨by omega, by rw [Nat.add_assoc, hmod, Nat.add_mod_right, Nat.mod_eq_of_lt hj]⟩

section
variable {K : Type} [Inhabited K] [Add K] [Mul K]

/-- the `hbody` of `forRange_cells_sub` for the inner loop of `applySingle` in the `t`-th block -/
theorem pair_step (arr : Array K) (q : Nat) (m : Mat2 K) (t j : Nat) (st : Array K) (hj : j < 2 ^ q)
    (hblk : t * (2 * 2 ^ q) + 2 * 2 ^ q ≤ arr.size) (hs : st.size = arr.size)
    (hst : ∀ k, k < arr.size → k / (2 * 2 ^ q) = t ∧ k % 2 ^ q = j → st[k]! = arr[k]!) :
    (pairUpdate m (2 ^ q) (t * (2 * 2 ^ q)) j st).size = arr.size ∧
    ∀ k, k < arr.size → (pairUpdate m (2 ^ q) (t * (2 * 2 ^ q)) j st)[k]! =
      if k / (2 * 2 ^ q) = t ∧ k % 2 ^ q = j then gateSpecX (absArr arr) q m k else st[k]! := by
  obtain ⟨hbit, hflip⟩ := pair_flip q t j hj
  have hown := fun k => pair_cells_iff (t := t) (k := k) hj
  generalize t * (2 * 2 ^ q) = b at *
  have c0 : st[b + j]! = arr[b + j]! := hst _ (by omega) ((hown _).mpr (.inl rfl))
  have c1 : st[b + j + 2 ^ q]! = arr[b + j + 2 ^ q]! := hst _ (by omega) ((hown _).mpr (.inr rfl))
  refine two_cells st (b + j) (b + j + 2 ^ q) hs (by omega) (by omega) hown ?_ ?_
  · unfold gateSpecX absArr
    rw [c0, c1, hbit, if_neg (by simp), hflip]
  · unfold gateSpecX absArr
    rw [c0, c1, ← hflip, testBit_xor_two_pow_self, hbit, xor_two_pow_cancel]
    rfl

/-- **The blocked loop of `applySingleQubitGate` computes `M` on tensor factor `q`.** -/
theorem applySingle_eq_gateSpecX (arr : Array K) (n q : Nat) (m : Mat2 K)
    (hsize : arr.size = 2 ^ n) (hq : q < n) :
    ∀ k, k < arr.size → (applySingle arr q m)[k]! = gateSpecX (absArr arr) q m k := by
  have hcnt : arr.size = 2 ^ (n - q - 1) * (2 * 2 ^ q) := by
    rw [hsize, ← Nat.pow_succ', ← Nat.pow_add]; congr 1; omega
  have hspos : 0 < 2 * 2 ^ q := Nat.mul_pos (by omega) (Nat.two_pow_pos q)
  refine And.right (a := (applySingle arr q m).size = arr.size) ?_
  unfold applySingle
  -- outer loop: iteration `t` owns the `t`-th block of `2·2^q` cells
  refine forStep_cells (fun k => k / (2 * 2 ^ q)) (gateSpecX (absArr arr) q m) hcnt hspos rfl
    (fun k hk => if_pos (by rw [Nat.div_lt_iff_lt_mul hspos, ← hcnt]; exact hk)) ?_
  intro t st ht hs hst
  have hb : t * (2 * 2 ^ q) + 2 * 2 ^ q ≤ arr.size := by
    rw [hcnt, ← Nat.succ_mul]; exact Nat.mul_le_mul_right _ ht
  -- inner loop: iteration `j` owns the pair at offset `j` of the two halves of the block
  refine forRange_cells_sub (· % 2 ^ q) hs (fun k => Nat.mod_lt k (Nat.two_pow_pos q)) ?_
  intro j st' hj hs' hst'
  exact pair_step arr q m t j st' hj hb hs' fun k hk ho => by rw [hst' k hk ho, hst k hk ho.1]

end
end BlochVerif.Sim
