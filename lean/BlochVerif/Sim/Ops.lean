import BlochVerif.Sim.Model
/-!
# What each simulator operation does to each field, and when it succeeds (core-only, any scalar type)

Proofs about the simulator and about the evaluator that drives it use these lemmas instead of unfolding the
operations; what holds of every step of a history goes through `stepOp_cases`.
-/
namespace BlochVerif.Sim

section sizes
variable {K R : Type} [Inhabited K]

@[simp] theorem swapCells_size (st : Array K) (i j : Nat) : (swapCells st i j).size = st.size := by
  simp [swapCells]

@[simp] theorem cxLoop_size (arr : Array K) (c t : Nat) : (cxLoop arr c t).size = arr.size := by
  unfold cxLoop
  refine forStep_pres (·.size = arr.size) _ _ _ (fun _ s hs => ?_) 0 arr rfl
  refine forStep_pres (·.size = arr.size) _ _ _ (fun _ s hs => ?_) 0 s hs
  refine forStep_pres (·.size = arr.size) _ _ _ (fun _ s hs => ?_) 0 s hs
  rw [swapCells_size, hs]

@[simp] theorem collapse_size (o : ROps K R) (arr : Array K) (q : Nat) (res : Bool) (norm : R) :
    (collapse o arr q res norm).size = arr.size := by
  unfold collapse
  refine forStep_pres (·.size = arr.size) _ _ _ (fun _ s hs => ?_) 0 arr rfl
  split <;> simp [hs]

@[simp] theorem swapDown_size (o : ROps K R) (arr : Array K) (q : Nat) : (swapDown o arr q).size = arr.size := by
  unfold swapDown
  refine forStep_pres (·.size = arr.size) _ _ _ (fun _ s hs => ?_) 0 arr rfl
  split <;> simp [hs]

@[simp] theorem allocate_amps_size (o : ROps K R) (st : State K R) :
    (allocate o st).1.amps.size = 2 * st.amps.size := by
  unfold allocate
  refine forStep_pres (fun a : Array K => a.size = 2 * st.amps.size) _ _ _ (fun _ s hs => ?_) 0 _
    (by simp [Nat.mul_comm])
  simp [hs]

variable [Add K] [Mul K]

@[simp] theorem pairUpdate_size (m : Mat2 K) (step i j : Nat) (st : Array K) :
    (pairUpdate m step i j st).size = st.size := by
  simp [pairUpdate]

@[simp] theorem applySingle_size (arr : Array K) (q : Nat) (m : Mat2 K) : (applySingle arr q m).size = arr.size := by
  unfold applySingle
  refine forStep_pres (·.size = arr.size) _ _ _ (fun _ s hs => ?_) 0 arr rfl
  refine forStep_pres (·.size = arr.size) _ _ _ (fun _ s hs => ?_) 0 s hs
  rw [pairUpdate_size, hs]

end sizes

section fields
variable {K R : Type}

theorem State.ext5 (a b : State K R) (h1 : a.n = b.n) (h2 : a.amps = b.amps) (h3 : a.measured = b.measured)
    (h4 : a.ops = b.ops) (h5 : a.logOps = b.logOps) : a = b := by
  cases a; cases b; simp_all

@[simp] theorem log_amps (st : State K R) (op : QOp R) : (st.log op).amps = st.amps := by
  unfold State.log; split <;> rfl
@[simp] theorem log_n (st : State K R) (op : QOp R) : (st.log op).n = st.n := by
  unfold State.log; split <;> rfl
@[simp] theorem log_measured (st : State K R) (op : QOp R) : (st.log op).measured = st.measured := by
  unfold State.log; split <;> rfl
@[simp] theorem log_logOps (st : State K R) (op : QOp R) : (st.log op).logOps = st.logOps := by
  unfold State.log; split <;> rfl
theorem log_ops (st : State K R) (op : QOp R) :
    (st.log op).ops = if st.logOps then st.ops ++ [op] else st.ops := by
  unfold State.log; split <;> rfl

theorem ensureActive_eq_ok (st : State K R) (q : Nat) :
    ensureActive st q = .ok () ↔ q < st.n ∧ st.measured[q]! = false := by
  unfold ensureActive
  by_cases hq : q < st.n
  · rw [if_neg (Nat.not_le.mpr hq)]
    cases hm : st.measured[q]!
    · simp [hq]
    -- the statement drops the guard `q < st.measured.size`: beyond the size the read gives `default : Bool`, which is
    -- `false`, so a flag read as `true` lies within it
    · have hs : q < st.measured.size := by
        apply Decidable.byContradiction; intro hs
        rw [getElem!_neg st.measured q hs] at hm; cases hm
      simp [hq, hs]
  · rw [if_pos (Nat.le_of_not_lt hq)]
    simp [hq]

theorem ensureActive_lt {st : State K R} {q : Nat} (h : ensureActive st q = .ok ()) : q < st.n :=
  ((ensureActive_eq_ok st q).mp h).1

variable [Inhabited K]

@[simp] theorem allocate_n (o : ROps K R) (st : State K R) : (allocate o st).1.n = st.n + 1 := rfl
@[simp] theorem allocate_ops (o : ROps K R) (st : State K R) : (allocate o st).1.ops = st.ops := rfl
@[simp] theorem allocate_logOps (o : ROps K R) (st : State K R) : (allocate o st).1.logOps = st.logOps := rfl
theorem allocate_index (o : ROps K R) (st : State K R) : (allocate o st).2 = st.n := rfl

theorem allocate_measured (o : ROps K R) (st : State K R) (hf : st.measured.size = st.n) :
    (allocate o st).1.measured = st.measured.push false := by
  unfold allocate
  simp only
  rw [if_pos (show st.n ≥ st.measured.size from Nat.le_of_eq hf), hf]
  simp

theorem ensureActive_allocate (o : ROps K R) (st : State K R) (hf : st.measured.size = st.n) (q : Nat)
    (h : ensureActive st q = .ok ()) : ensureActive (allocate o st).1 q = .ok () := by
  rw [ensureActive_eq_ok] at h ⊢
  rw [allocate_measured o st hf, allocate_n]
  refine ⟨by omega, ?_⟩
  rw [← h.2, getElem!_pos _ q (by simp; omega), getElem!_pos _ q (by omega), Array.getElem_push_lt]

end fields

section operations
variable {K R : Type} [Inhabited K]

section
variable [Add K] [Mul K]

theorem gate1_eq_ok (o : ROps K R) (st s : State K R) (op : QOp R) :
    gate1 o st op = .ok s ↔ (gateMat o op = none ∧ st = s) ∨ ∃ q m, gateMat o op = some (q, m) ∧
      ensureActive st q = .ok () ∧ ({ st with amps := applySingle st.amps q m }).log op = s := by
  unfold gate1
  cases hg : gateMat o op with
  | none => simp
  | some qm =>
    obtain ⟨q, m⟩ := qm
    simp only [reduceCtorEq, false_and, false_or, Option.some.injEq, Prod.mk.injEq]
    constructor
    · intro h
      cases he : ensureActive st q with
      | error e => rw [he] at h; cases h
      | ok u => rw [he] at h; cases h; exact ⟨q, m, ⟨rfl, rfl⟩, he, rfl⟩
    · rintro ⟨_, _, ⟨rfl, rfl⟩, he, rfl⟩
      rw [he]; rfl

end

theorem cx_eq_ok (st s : State K R) (c t : Nat) :
    cx st c t = .ok s ↔ ensureActive st c = .ok () ∧ ensureActive st t = .ok () ∧ c ≠ t ∧
      ({ st with amps := cxLoop st.amps c t }).log (.cx c t) = s := by
  unfold cx
  cases hc : ensureActive st c <;> cases ht : ensureActive st t <;> by_cases hct : c = t <;>
    simp [bind, Except.bind, pure, Except.pure, throw, throwThe, MonadExceptOf.throw, hct]

theorem measure_eq_ok (o : ROps K R) (st : State K R) (q : Nat) (r : R) (p : State K R × Nat) :
    measure o st q r = .ok p ↔ ensureActive st q = .ok () ∧
      ((measureCore o st q r).1, if (measureCore o st q r).2 then 1 else 0) = p := by
  unfold measure
  cases he : ensureActive st q <;> simp [bind, Except.bind, pure, Except.pure]

theorem reset_eq_ok (o : ROps K R) (st : State K R) (q : Nat) (r : R) (p : State K R × Nat) :
    reset o st q r = .ok p ↔ q < st.n ∧
      ((resetCore o st q r).1, if (resetCore o st q r).2 then 1 else 0) = p := by
  unfold reset
  by_cases hq : q < st.n
  · simp [pure, Except.pure, hq, Nat.not_le.mpr hq]
  · simp [bind, Except.bind, throw, throwThe, MonadExceptOf.throw, hq, Nat.le_of_not_lt hq]

theorem measureCore_snd (o : ROps K R) (st : State K R) (q : Nat) (r : R) :
    (measureCore o st q r).2 =
      o.lt (o.mul r (o.add (mass o st.amps q false) (mass o st.amps q true))) (mass o st.amps q true) := rfl

theorem measureCore_amps (o : ROps K R) (st : State K R) (q : Nat) (r : R) :
    (measureCore o st q r).1.amps = collapse o st.amps q (measureCore o st q r).2
      (o.sqrt (if (measureCore o st q r).2 then mass o st.amps q true else mass o st.amps q false)) := by
  simp [measureCore]

@[simp] theorem measureCore_amps_size (o : ROps K R) (st : State K R) (q : Nat) (r : R) :
    (measureCore o st q r).1.amps.size = st.amps.size := by
  rw [measureCore_amps, collapse_size]

@[simp] theorem measureCore_n (o : ROps K R) (st : State K R) (q : Nat) (r : R) :
    (measureCore o st q r).1.n = st.n := by
  simp [measureCore]

@[simp] theorem measureCore_measured (o : ROps K R) (st : State K R) (q : Nat) (r : R) :
    (measureCore o st q r).1.measured = st.measured.setIfInBounds q true := by
  simp [measureCore]

@[simp] theorem measureCore_logOps (o : ROps K R) (st : State K R) (q : Nat) (r : R) :
    (measureCore o st q r).1.logOps = st.logOps := by
  simp [measureCore]

theorem measureCore_ops (o : ROps K R) (st : State K R) (q : Nat) (r : R) :
    (measureCore o st q r).1.ops = if st.logOps then st.ops ++ [.measure q] else st.ops := by
  simp [measureCore, log_ops]

/-! `resetCore` is stated through `measureCore`: reset is a measurement followed, on outcome 1, by moving the `|1⟩` half
down (`swapDown`), so what C02 proves of `measureCore` serves C04. -/

theorem resetCore_snd (o : ROps K R) (st : State K R) (q : Nat) (r : R) :
    (resetCore o st q r).2 = (measureCore o st q r).2 := rfl

theorem resetCore_amps (o : ROps K R) (st : State K R) (q : Nat) (r : R) :
    (resetCore o st q r).1.amps =
      if (measureCore o st q r).2 then swapDown o (measureCore o st q r).1.amps q
      else (measureCore o st q r).1.amps := by
  rw [measureCore_amps]
  simp [resetCore, measureCore]

@[simp] theorem resetCore_amps_size (o : ROps K R) (st : State K R) (q : Nat) (r : R) :
    (resetCore o st q r).1.amps.size = st.amps.size := by
  rw [resetCore_amps]; split <;> simp

@[simp] theorem resetCore_n (o : ROps K R) (st : State K R) (q : Nat) (r : R) :
    (resetCore o st q r).1.n = st.n := by
  simp [resetCore]

@[simp] theorem resetCore_measured (o : ROps K R) (st : State K R) (q : Nat) (r : R) :
    (resetCore o st q r).1.measured = st.measured.setIfInBounds q false := by
  simp [resetCore]

@[simp] theorem resetCore_logOps (o : ROps K R) (st : State K R) (q : Nat) (r : R) :
    (resetCore o st q r).1.logOps = st.logOps := by
  simp [resetCore]

theorem resetCore_ops (o : ROps K R) (st : State K R) (q : Nat) (r : R) :
    (resetCore o st q r).1.ops = if st.logOps then st.ops ++ [.reset q] else st.ops := by
  simp [resetCore, log_ops]

variable [Add K] [Mul K]

@[simp] theorem runOps_nil (o : ROps K R) (st : State K R) : runOps o st [] = st := rfl

@[simp] theorem runOps_cons (o : ROps K R) (st : State K R) (op : HOp R) (h : List (HOp R)) :
    runOps o st (op :: h) = runOps o (stepOp o st op) h := rfl

/-- The line an operation performed in state `st` adds to the log (if logging is on); none for an allocation, for a
refused operation and for a `.gate` whose line `gateMat` does not know.  It stands here because the conclusion of
`stepOp_cases` speaks of it; the theorems about the log are in `Props/C05.lean`. -/
def _root_.BlochVerif.Props.C05.lineOf (o : ROps K R) (st : State K R) : HOp R → List (QOp R)
  | .alloc => []
  | .gate op =>
    match gateMat o op, gate1 o st op with
    | some _, .ok _ => [op]
    | _, _ => []
  | .cx c t => match cx st c t with | .ok _ => [.cx c t] | .error _ => []
  | .measure q r => match measure o st q r with | .ok _ => [.measure q] | .error _ => []
  | .reset q r => match reset o st q r with | .ok _ => [.reset q] | .error _ => []

open Props.C05 (lineOf)

/-- Case analysis of one step of a history, with the line it logs: either the state is left alone and there is no line,
or the step is the effect of the operation, whose guard is then a hypothesis.  The `refused` premise comes without the
reason for the refusal: it has to hold of every operation other than an allocation. -/
theorem stepOp_cases (o : ROps K R) (st : State K R) {P : HOp R → State K R → List (QOp R) → Prop}
    (refused : ∀ op, op ≠ .alloc → P op st [])
    (alloc : P .alloc (allocate o st).1 [])
    (gate : ∀ g q m, gateMat o g = some (q, m) → ensureActive st q = .ok () →
      P (.gate g) (({ st with amps := applySingle st.amps q m }).log g) [g])
    (cx : ∀ c t, ensureActive st c = .ok () → ensureActive st t = .ok () → c ≠ t →
      P (.cx c t) (({ st with amps := cxLoop st.amps c t }).log (.cx c t)) [.cx c t])
    (measure : ∀ q r, ensureActive st q = .ok () → P (.measure q r) (measureCore o st q r).1 [.measure q])
    (reset : ∀ q r, q < st.n → P (.reset q r) (resetCore o st q r).1 [.reset q]) :
    ∀ op, P op (stepOp o st op) (lineOf o st op) := by
  intro op
  cases op with
  | alloc => exact alloc
  | gate g =>
    simp only [stepOp, lineOf]
    cases h : gate1 o st g with
    | error e => cases gateMat o g <;> exact refused _ (by simp)
    | ok s =>
      obtain ⟨hg, rfl⟩ | ⟨q, m, hg, he, rfl⟩ := (gate1_eq_ok o st s g).mp h
      · rw [hg]; exact refused _ (by simp)
      · rw [hg]; exact gate g q m hg he
  | cx c t =>
    simp only [stepOp, lineOf]
    cases h : Sim.cx st c t with
    | error e => exact refused _ (by simp)
    | ok s =>
      obtain ⟨hc, ht, hct, rfl⟩ := (cx_eq_ok st s c t).mp h
      exact cx c t hc ht hct
  | measure q r =>
    simp only [stepOp, lineOf]
    cases h : Sim.measure o st q r with
    | error e => exact refused _ (by simp)
    | ok p =>
      obtain ⟨he, rfl⟩ := (measure_eq_ok o st q r p).mp h
      exact measure q r he
  | reset q r =>
    simp only [stepOp, lineOf]
    cases h : Sim.reset o st q r with
    | error e => exact refused _ (by simp)
    | ok p =>
      obtain ⟨hq, rfl⟩ := (reset_eq_ok o st q r p).mp h
      exact reset q r hq

theorem stepOp_n (o : ROps K R) (st : State K R) (op : HOp R) :
    (stepOp o st op).n = match op with | .alloc => st.n + 1 | _ => st.n :=
  stepOp_cases o st (P := fun op s _ => s.n = match op with | .alloc => st.n + 1 | _ => st.n)
    (refused := fun op hne => by cases op <;> simp at hne ⊢) (alloc := rfl) (gate := fun _ _ _ _ _ => log_n ..)
    (cx := fun _ _ _ _ _ => log_n ..) (measure := fun _ _ _ => measureCore_n ..) (reset := fun _ _ _ => resetCore_n ..)
    op

end operations
end BlochVerif.Sim
