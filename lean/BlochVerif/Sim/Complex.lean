import BlochVerif.Sim.LoopLemmas
import Mathlib.Data.Complex.Basic
import Mathlib.Analysis.SpecialFunctions.Trigonometric.Basic
import Mathlib.Analysis.SpecialFunctions.Sqrt
import Mathlib.Algebra.BigOperators.Group.Finset.Basic
import Mathlib.Tactic.Ring
import Mathlib.Tactic.Linarith
import Mathlib.Tactic.FieldSimp
/-!
# The proof instance: exact complex amplitudes

`complexOps` instantiates the simulator model (`Sim/Model.lean`, the same definitions the driver
executes with `Float`) at Mathlib's `ℂ`/`ℝ`; the theorems of C01–C05 about amplitudes are about this instance.
Floating-point rounding is *not* modelled by these theorems (see DESIGN.md §5).
-/
namespace BlochVerif.Sim
open Finset

/-- Each field is Mathlib's operation by `rfl`: a `show`, `rfl` or `exact` step in a proof about this instance that
reads `complexOps.add`, `.lt`, `.sqrt`, `.kzero`, … as `+`, `decide (· < ·)`, `Real.sqrt`, `0` rests on that. -/
noncomputable def complexOps : ROps ℂ ℝ where
  cplx := fun a b => ⟨a, b⟩
  kzero := 0
  normSq := fun z => Complex.normSq z
  divR := fun z r => z / (r : ℂ)
  mulR := fun z r => z * (r : ℂ)
  zero := 0
  one := 1
  add := (· + ·)
  sub := (· - ·)
  mul := (· * ·)
  div := (· / ·)
  neg := fun x => -x
  sqrt := Real.sqrt
  invSqrt2 := 1 / Real.sqrt 2
  cosHalf := fun t => Real.cos (t / 2)
  sinHalf := fun t => Real.sin (t / 2)
  lt := fun a b => decide (a < b)
  isZero := fun x => decide (x = 0)

noncomputable instance : Inhabited ℂ := ⟨0⟩

/-- the squared norm `Σ_{k<N} |ψ k|²` -/
noncomputable def nrm2 (ψ : ℕ → ℂ) (N : ℕ) : ℝ := ∑ k ∈ range N, Complex.normSq (ψ k)

/-- `‖P_b ψ‖²`, `P_b` the projection onto `bit q = b`; the simulator's `mass` computes it (`mass_eq_massSpec`) -/
noncomputable def massSpec (ψ : ℕ → ℂ) (N q : ℕ) (b : Bool) : ℝ :=
  ∑ k ∈ range N, if k.testBit q = b then Complex.normSq (ψ k) else 0

/-! With `default = 0` an amplitude array read through `absArr` is a function on all of `ℕ` that vanishes beyond the
array.  Allocation (`ψ ↦ ψ ⊗ |0⟩`) does not change that function, and every operation acts on it by its
specification, so statements about post-states are equations between functions. -/

theorem absArr_of_size_le (a : Array ℂ) {k : ℕ} (h : a.size ≤ k) : absArr a k = 0 := by
  unfold absArr; rw [getElem!_neg a k (by omega)]; rfl

theorem absArr_eq (a : Array ℂ) (f : ℕ → ℂ) (hin : ∀ k, k < a.size → a[k]! = f k)
    (hout : ∀ k, a.size ≤ k → f k = 0) : absArr a = f := by
  funext k
  by_cases hk : k < a.size
  · exact hin k hk
  · rw [absArr_of_size_le a (by omega), hout k (by omega)]

theorem absArr_inj {a b : Array ℂ} (hs : a.size = b.size) (h : absArr a = absArr b) : a = b := by
  apply Array.ext hs
  intro i h1 h2
  have := congrFun h i
  simpa [absArr, getElem!_pos, h1, h2] using this

theorem absArr_allocate (st : State ℂ ℝ) : absArr (allocate complexOps st).1.amps = absArr st.amps := by
  apply absArr_eq
  · intro k hk
    rw [allocate_amps complexOps st k (by simpa using hk)]
    split
    · rfl
    · exact (absArr_of_size_le _ (by omega)).symm
  · intro k hk
    exact absArr_of_size_le _ (by rw [allocate_amps_size] at hk; omega)

theorem mass_eq_massSpec (arr : Array ℂ) (q : ℕ) (b : Bool) :
    mass complexOps arr q b = massSpec (absArr arr) arr.size q b := by
  refine forRange_inv arr.size _ (fun t (acc : ℝ) => acc = massSpec (absArr arr) t q b) (fun t acc _ h => ?_) _
    (by simp [massSpec, complexOps])
  rw [h]
  unfold massSpec
  rw [Finset.sum_range_succ]
  by_cases hb : t.testBit q = b <;> simp [hb, complexOps, absArr]

theorem massSpec_add (ψ : ℕ → ℂ) (N q : ℕ) :
    massSpec ψ N q true + massSpec ψ N q false = nrm2 ψ N := by
  unfold massSpec nrm2
  rw [← Finset.sum_add_distrib]
  apply Finset.sum_congr rfl
  intro k _
  cases k.testBit q <;> simp

theorem massSpec_nonneg (ψ : ℕ → ℂ) (N q : ℕ) (b : Bool) : 0 ≤ massSpec ψ N q b := by
  unfold massSpec
  apply Finset.sum_nonneg
  intro k _
  split
  · exact Complex.normSq_nonneg _
  · exact le_refl _

theorem massSpec_eq_zero_iff (ψ : ℕ → ℂ) (N q : ℕ) (b : Bool) :
    massSpec ψ N q b = 0 ↔ ∀ k, k < N → k.testBit q = b → ψ k = 0 := by
  unfold massSpec
  rw [Finset.sum_eq_zero_iff_of_nonneg fun k _ => by split <;> simp [Complex.normSq_nonneg]]
  simp only [mem_range, ite_eq_right_iff, Complex.normSq_eq_zero]

theorem massSpec_of_vanish (ψ : ℕ → ℂ) {N N' : ℕ} (hN : N ≤ N') (hψ : ∀ k, N ≤ k → ψ k = 0) (q : ℕ) (b : Bool) :
    massSpec ψ N' q b = massSpec ψ N q b := by
  unfold massSpec
  refine (Finset.sum_subset (Finset.range_subset_range.mpr hN) fun k _ hk => ?_).symm
  rw [hψ k (by simpa using hk)]
  simp

theorem nrm2_of_vanish (ψ : ℕ → ℂ) {N N' : ℕ} (hN : N ≤ N') (hψ : ∀ k, N ≤ k → ψ k = 0) :
    nrm2 ψ N' = nrm2 ψ N := by
  -- the norm is the sum of the two masses of a bit (any bit; 0 is taken), and each of them stops at `N`
  rw [← massSpec_add ψ N' 0, ← massSpec_add ψ N 0, massSpec_of_vanish ψ hN hψ, massSpec_of_vanish ψ hN hψ]

/-- `M† M = 1` for a 2×2 complex matrix -/
structure IsUnitary2 (m : Mat2 ℂ) : Prop where
  col0 : Complex.normSq m.a + Complex.normSq m.c = 1
  col1 : Complex.normSq m.b + Complex.normSq m.d = 1
  orth : (starRingEnd ℂ) m.a * m.b + (starRingEnd ℂ) m.c * m.d = 0

theorem normSq_pair (m : Mat2 ℂ) (hu : IsUnitary2 m) (x y : ℂ) :
    Complex.normSq (m.a * x + m.b * y) + Complex.normSq (m.c * x + m.d * y) =
      Complex.normSq x + Complex.normSq y := by
  have key : ∀ z : ℂ, (Complex.normSq z : ℂ) = (starRingEnd ℂ) z * z := fun z =>
    Complex.normSq_eq_conj_mul_self
  have h0 := congrArg Complex.ofReal hu.col0
  have h1 := congrArg Complex.ofReal hu.col1
  have h2 := hu.orth
  have h2' := congrArg (starRingEnd ℂ) h2
  apply Complex.ofReal_injective
  push_cast at h0 h1 ⊢
  simp only [key, map_add, map_mul, map_zero, Complex.conj_conj] at h0 h1 h2' ⊢
  -- `‖Mv‖² − ‖v‖²` = the two column norms against `|x|²`, `|y|²`, the column product against `x̄y` and its conjugate
  linear_combination (starRingEnd ℂ x * x) * h0 + (starRingEnd ℂ y * y) * h1 +
    (starRingEnd ℂ x * y) * h2 + (x * starRingEnd ℂ y) * h2'

end BlochVerif.Sim
