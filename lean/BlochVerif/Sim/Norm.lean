import BlochVerif.Sim.Complex
import BlochVerif.Sim.CxProof
/-!
# The gate loops act on the wave function by their specifications, which preserve the norm (C03)

Norm preservation is by the pairing `k ↔ k xor 2^q`.
-/
namespace BlochVerif.Sim
open Finset

theorem absArr_applySingle (arr : Array ℂ) (n q : ℕ) (m : Mat2 ℂ) (hsize : arr.size = 2 ^ n) (hq : q < n) :
    absArr (applySingle arr q m) = gateSpecX (absArr arr) q m := by
  apply absArr_eq
  · intro k hk
    exact applySingle_eq_gateSpecX arr n q m hsize hq k (by simpa using hk)
  · intro k hk
    rw [applySingle_size, hsize] at hk
    unfold gateSpecX
    rw [absArr_of_size_le arr (k := k) (by omega),
      absArr_of_size_le arr (by rw [hsize]; exact xor_two_pow_ge hq hk)]
    simp

theorem absArr_cxLoop (arr : Array ℂ) (n c t : ℕ) (hsize : arr.size = 2 ^ n) (hc : c < n) (ht : t < n)
    (hct : c ≠ t) : absArr (cxLoop arr c t) = cxSpec (absArr arr) c t := by
  apply absArr_eq
  · intro k hk
    exact cxLoop_eq_cxSpec arr n c t hsize hc ht hct k (by simpa using hk)
  · intro k hk
    rw [cxLoop_size, hsize] at hk
    unfold cxSpec
    split
    · exact absArr_of_size_le arr (by rw [hsize]; exact xor_two_pow_ge ht hk)
    · exact absArr_of_size_le arr (by omega)

theorem sum_range_invol (f : ℕ → ℝ) (N : ℕ) (σ : ℕ → ℕ) (hσ : ∀ k, k < N → σ k < N) (hinv : ∀ k, σ (σ k) = k) :
    ∑ k ∈ range N, f (σ k) = ∑ k ∈ range N, f k :=
  Finset.sum_nbij' σ σ (fun k hk => mem_range.mpr (hσ k (mem_range.mp hk)))
    (fun k hk => mem_range.mpr (hσ k (mem_range.mp hk))) (fun k _ => hinv k) (fun k _ => hinv k) (fun _ _ => rfl)

theorem sum_xor_reindex (f : ℕ → ℝ) (n q : ℕ) (hq : q < n) :
    ∑ k ∈ range (2 ^ n), f (k ^^^ 2 ^ q) = ∑ k ∈ range (2 ^ n), f k :=
  sum_range_invol f _ _ (fun _ => xor_two_pow_lt hq) (xor_two_pow_cancel · q)

theorem gate_pair_norm (ψ : ℕ → ℂ) (q : ℕ) (m : Mat2 ℂ) (hu : IsUnitary2 m) (k : ℕ) :
    Complex.normSq (gateSpecX ψ q m k) + Complex.normSq (gateSpecX ψ q m (k ^^^ 2 ^ q)) =
      Complex.normSq (ψ k) + Complex.normSq (ψ (k ^^^ 2 ^ q)) := by
  unfold gateSpecX
  rw [testBit_xor_two_pow_self, xor_two_pow_cancel]
  cases h : k.testBit q
  · simp only [Bool.false_eq_true, if_false, Bool.not_false, if_true]
    exact normSq_pair m hu (ψ k) (ψ (k ^^^ 2 ^ q))
  · simp only [if_true, Bool.not_true, Bool.false_eq_true, if_false]
    have := normSq_pair m hu (ψ (k ^^^ 2 ^ q)) (ψ k)
    linarith

/-- **A one-qubit unitary on any tensor factor preserves the norm.** -/
theorem gate_norm (ψ : ℕ → ℂ) (n q : ℕ) (hq : q < n) (m : Mat2 ℂ) (hu : IsUnitary2 m) :
    nrm2 (gateSpecX ψ q m) (2 ^ n) = nrm2 ψ (2 ^ n) := by
  unfold nrm2
  -- sum the pair identity over all `k`: each side counts every cell twice, once as `k` and once as its partner
  have h1 := sum_xor_reindex (fun k => Complex.normSq (gateSpecX ψ q m k)) n q hq
  have h2 := sum_xor_reindex (fun k => Complex.normSq (ψ k)) n q hq
  have h3 : ∑ k ∈ range (2 ^ n), (Complex.normSq (gateSpecX ψ q m k) +
      Complex.normSq (gateSpecX ψ q m (k ^^^ 2 ^ q))) =
      ∑ k ∈ range (2 ^ n), (Complex.normSq (ψ k) + Complex.normSq (ψ (k ^^^ 2 ^ q))) :=
    Finset.sum_congr rfl (fun k _ => gate_pair_norm ψ q m hu k)
  rw [Finset.sum_add_distrib, Finset.sum_add_distrib] at h3
  linarith

/-- the index map of `cxSpec`: `cxSpec ψ c t k` is `ψ (cxMap c t k)` by definition -/
def cxMap (c t k : ℕ) : ℕ := if k.testBit c then k ^^^ 2 ^ t else k

theorem cxMap_invol (c t k : ℕ) (hct : c ≠ t) : cxMap c t (cxMap c t k) = k := by
  unfold cxMap
  cases h : k.testBit c
  · simp [h]
  · have : (k ^^^ 2 ^ t).testBit c = true := by
      rw [Nat.testBit_xor, h, Nat.testBit_two_pow]; simp [Ne.symm hct]
    simp [this, xor_two_pow_cancel]

theorem cxMap_lt {n c t k : ℕ} (ht : t < n) (hk : k < 2 ^ n) : cxMap c t k < 2 ^ n := by
  unfold cxMap; split
  · exact xor_two_pow_lt ht hk
  · exact hk

theorem cx_norm (ψ : ℕ → ℂ) (n c t : ℕ) (ht : t < n) (hct : c ≠ t) :
    nrm2 (cxSpec ψ c t) (2 ^ n) = nrm2 ψ (2 ^ n) :=
  sum_range_invol (fun k => Complex.normSq (ψ k)) _ (cxMap c t) (fun _ => cxMap_lt ht) (cxMap_invol c t · hct)

end BlochVerif.Sim
