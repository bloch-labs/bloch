import BlochVerif.Sim.Complex
/-!
# `gateSpecX` is `M` on tensor factor `q` and the identity on every other factor

Matrix elements of `I ⊗ … ⊗ M ⊗ … ⊗ I` in the computational basis (qubit `q` = bit `q`):
`⟨k| U |j⟩ = M[k_q, j_q] · ∏_{i ≠ q} δ(k_i, j_i)`.
-/
namespace BlochVerif.Sim
open Finset

def Mat2.entry {K : Type} (m : Mat2 K) (r c : Bool) : K :=
  match r, c with
  | false, false => m.a
  | false, true => m.b
  | true, false => m.c
  | true, true => m.d

-- `b` is given so that the proposition through which `agreeOff` is decided is written with the same power on `ℕ` as the
-- statements of this file (Mathlib's), since `agreeOff_iff` is stated in a core-only file
noncomputable instance (q k j : ℕ) : Decidable (agreeOff q k j) :=
  decidable_of_iff _ (Iff.symm (b := j = k ∨ j = k ^^^ 2 ^ q) (agreeOff_iff q k j))

/-- `⟨k| I ⊗ … ⊗ M_q ⊗ … ⊗ I |j⟩` -/
noncomputable def tensorEntry (q : ℕ) (m : Mat2 ℂ) (k j : ℕ) : ℂ :=
  if agreeOff q k j then m.entry (k.testBit q) (j.testBit q) else 0

/-- **`gateSpecX ψ q M` is the matrix–vector product with `I ⊗ … ⊗ M_q ⊗ … ⊗ I`.** -/
theorem gateSpecX_eq_tensor (ψ : ℕ → ℂ) (n q : ℕ) (hq : q < n) (m : Mat2 ℂ) (k : ℕ)
    (hk : k < 2 ^ n) :
    gateSpecX ψ q m k = ∑ j ∈ range (2 ^ n), tensorEntry q m k j * ψ j := by
  have hne : k ≠ k ^^^ 2 ^ q := fun h => xor_two_pow_ne k q h.symm
  rw [Finset.sum_eq_add k (k ^^^ 2 ^ q) hne]
  · unfold tensorEntry gateSpecX
    rw [if_pos ((agreeOff_iff q k k).mpr (Or.inl rfl)),
      if_pos ((agreeOff_iff q k _).mpr (Or.inr rfl)), testBit_xor_two_pow_self]
    cases h : k.testBit q <;> simp [Mat2.entry]
    ring
  · intro c _ ⟨h1, h2⟩
    unfold tensorEntry
    rw [if_neg, zero_mul]
    rw [agreeOff_iff]; exact fun h => h.elim h1 h2
  · intro h; exact absurd (mem_range.mpr hk) h
  · intro h; exact absurd (mem_range.mpr (xor_two_pow_lt hq hk)) h

/-- on a computational basis state `|x⟩` the result is `M[0,x_q]|x with q:=0⟩ + M[1,x_q]|x with q:=1⟩`:
    column `x_q` of `M` on factor `q`, all other qubits untouched -/
theorem gateSpecX_basis (q : ℕ) (m : Mat2 ℂ) (x k : ℕ) :
    gateSpecX (fun j => if j = x then (1 : ℂ) else 0) q m k =
      if agreeOff q k x then m.entry (k.testBit q) (x.testBit q) else 0 := by
  -- the case `ψ = δ_x` of `gateSpecX_eq_tensor`, in a register large enough to hold `k` and `x`
  have hn : ∀ y, y ≤ q + k + x → y < 2 ^ (q + k + x + 1) := fun y hy =>
    Nat.lt_of_le_of_lt hy (Nat.lt_of_lt_of_le Nat.lt_two_pow_self (Nat.pow_le_pow_right (by omega) (by omega)))
  rw [gateSpecX_eq_tensor _ (q + k + x + 1) q (by omega) m k (hn k (by omega))]
  simp only [mul_ite, mul_one, mul_zero, Finset.sum_ite_eq', mem_range, hn x (by omega), if_true]
  rfl

end BlochVerif.Sim
