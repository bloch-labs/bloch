/-!
`forStep stop step body i s` is the C loop `for (; i < stop; i += step) s = body(i, s);`
The simulator model is written with this combinator so that the model has the same loop
structure as `qasm_simulator.cpp`; the theorems about it go through two rules: what every iteration
preserves is preserved (`forStep_pres`), and an invariant indexed by the iteration number, for a loop whose start and
bound are multiples of the stride (`forStep_mul_inv`).
Core-only (no Mathlib): this file is linked into the executable driver.
-/

namespace BlochVerif

def forStep {σ : Type} (stop step : Nat) (body : Nat → σ → σ) (i : Nat) (s : σ) : σ :=
  if _h : i < stop ∧ 0 < step then forStep stop step body (i + step) (body i s) else s
termination_by stop - i
decreasing_by omega

/-- `for (i = 0; i < n; ++i)` -/
abbrev forRange {σ : Type} (n : Nat) (body : Nat → σ → σ) (s : σ) : σ :=
  forStep n 1 body 0 s

theorem forStep_pres {σ : Type} (P : σ → Prop) (stop step : Nat) (body : Nat → σ → σ)
    (hb : ∀ i s, P s → P (body i s)) (i : Nat) (s : σ) (hs : P s) : P (forStep stop step body i s) := by
  fun_induction forStep stop step body i s with
  | case1 i s _ ih => exact ih (hb i s hs)
  | case2 => exact hs

theorem forStep_mul_inv {σ : Type} (step cnt : Nat) (hstep : 0 < step) (body : Nat → σ → σ)
    (I : Nat → σ → Prop)
    (hI : ∀ t s, t < cnt → I t s → I (t + 1) (body (t * step) s)) :
    ∀ t s, t ≤ cnt → I t s → I cnt (forStep (cnt * step) step body (t * step) s) := by
  intro t s ht
  induction h : cnt - t generalizing t s with
  | zero =>
    intro hi
    have : t = cnt := by omega
    subst this
    rw [forStep, dif_neg (by omega)]; exact hi
  | succ n ih =>
    intro hi
    have hlt : t < cnt := by omega
    have hlt' : t * step < cnt * step := Nat.mul_lt_mul_of_pos_right hlt hstep
    rw [forStep, dif_pos ⟨hlt', hstep⟩]
    have : t * step + step = (t + 1) * step := by rw [Nat.add_mul, Nat.one_mul]
    rw [this]
    exact ih (t + 1) _ (by omega) (by omega) (hI t s hlt hi)

/-- the unit-step case, from 0 -/
theorem forRange_inv {σ : Type} (n : Nat) (body : Nat → σ → σ) (I : Nat → σ → Prop)
    (hI : ∀ t s, t < n → I t s → I (t + 1) (body t s)) (s : σ) (h0 : I 0 s) : I n (forRange n body s) := by
  have := forStep_mul_inv 1 n Nat.one_pos body I (fun t s ht hi => by rw [Nat.mul_one]; exact hI t s ht hi)
    0 s (Nat.zero_le n) h0
  rwa [Nat.mul_one, Nat.zero_mul] at this

theorem forStep_one_eq_foldl {σ : Type} (n : Nat) (body : Nat → σ → σ) :
    ∀ (k i : Nat) (s : σ), i + k = n →
      forStep n 1 body i s = (List.range' i k).foldl (fun s j => body j s) s := by
  intro k
  induction k with
  | zero => intro i s h; rw [forStep, dif_neg (by omega)]; rfl
  | succ k ih =>
    intro i s h
    rw [forStep, dif_pos ⟨by omega, Nat.one_pos⟩, ih (i + 1) (body i s) (by omega), List.range'_succ, List.foldl_cons]

/-- a unit-step loop is a left fold over the indices in increasing order -/
theorem forRange_eq_foldl {σ : Type} (n : Nat) (body : Nat → σ → σ) (s : σ) :
    forRange n body s = (List.range n).foldl (fun s j => body j s) s := by
  rw [List.range_eq_range', ← forStep_one_eq_foldl n body n 0 s (Nat.zero_add n)]

end BlochVerif
