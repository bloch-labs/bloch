/-!
# The Pratt core: binary levels, a prefix operator, postfix operators (`++`, indexing, member access, calls), parentheses

An abstract copy of the loop structure of `Parser::parsePrattExpression` / `parsePrefixExpression`
/ `parsePrimary` over an abstract token alphabet: binary operator `k` has left binding power
`lbp k` and right binding power `lbp k + 1` (left-associative), the prefix operator parses its
operand at `PRE`, the postfix forms (`e!`, `e[i]`, `e.n`, `e()`, `e(a)`) bind at `POST`.  `roundtrip` says that parsing the
minimal-parenthesis rendering of *any* tree returns the tree (modulo `paren` nodes), for any table
with `lbp k < PRE` for every `k`: that is its one hypothesis, `PRE` and `POST` being the numerals 14 and 16
(what the proof uses of them is `PRE < POST`, in `stops_PRE`).  `Props/C14.lean` instantiates it with the table
regenerated from `parser.cpp`, whose infix entries are checked (by `decide`) to lie below its prefix power, that
power to be `PRE` and its postfix powers `POST`, besides the level order of `docs/grammar.md`.  Left out: argument
lists of more than one expression, and the real parser's refusal of a negative literal index (`negativeConstIndex`
in `Parse/Model.lean`): the `[` clause of `loop` accepts any index.  Core-only.
-/
namespace BlochVerif.Parse.PrattCore

inductive Tok | num (n : Nat) | op (k : Nat) | neg | bang | lp | rp | lb | rb | dot (n : Nat)
  deriving DecidableEq, Repr

inductive E | num (n : Nat) | bin (k : Nat) (l r : E) | neg (e : E) | post (e : E) | paren (e : E)
  | index (e i : E) | member (e : E) (n : Nat) | call0 (e : E) | call1 (e a : E)
  deriving DecidableEq, Repr

def PRE : Nat := 14
def POST : Nat := 16

section
variable (lbp : Nat → Nat)

mutual
def primary : Nat → List Tok → Option (E × List Tok)
  | 0, _ => none
  | _+1, .num n :: r => some (.num n, r)
  | f+1, .lp :: r =>
    match pratt f 0 r with
    | some (e, .rp :: r') => some (.paren e, r')
    | _ => none
  | _+1, _ => none
def pfx : Nat → List Tok → Option (E × List Tok)
  | 0, _ => none
  | f+1, .neg :: r =>
    match pratt f PRE r with
    | some (e, r') => some (.neg e, r')
    | none => none
  | f+1, ts => primary f ts
def pratt : Nat → Nat → List Tok → Option (E × List Tok)
  | 0, _, _ => none
  | f+1, m, ts =>
    match pfx f ts with
    | some (l, r) => loop f m l r
    | none => none
def loop : Nat → Nat → E → List Tok → Option (E × List Tok)
  | 0, _, _, _ => none
  | f+1, m, l, .op k :: r =>
    if lbp k < m then some (l, .op k :: r)
    else match pratt f (lbp k + 1) r with
      | some (rt, r') => loop f m (.bin k l rt) r'
      | none => none
  | f+1, m, l, .bang :: r =>
    if POST < m then some (l, .bang :: r) else loop f m (.post l) r
  | f+1, m, l, .dot n :: r =>
    if POST < m then some (l, .dot n :: r) else loop f m (.member l n) r
  | f+1, m, l, .lb :: r =>
    if POST < m then some (l, .lb :: r)
    else match pratt f 0 r with
      | some (i, .rb :: r') => loop f m (.index l i) r'
      | _ => none
  | f+1, m, l, .lp :: .rp :: r =>
    if POST < m then some (l, .lp :: .rp :: r) else loop f m (.call0 l) r
  | f+1, m, l, .lp :: r =>
    if POST < m then some (l, .lp :: r)
    else match pratt f 0 r with
      | some (a, .rp :: r') => loop f m (.call1 l a) r'
      | _ => none
  | _+1, _, l, ts => some (l, ts)
end
end

section proofs
variable (lbp : Nat → Nat)

def stops (m : Nat) : List Tok → Prop
  | .op k :: _ => lbp k < m
  | .bang :: _ => POST < m
  | .dot _ :: _ => POST < m
  | .lb :: _ => POST < m
  | .lp :: _ => POST < m
  | _ => True

-- 100: anything above `POST`, so that `body` never parenthesises a number or a parenthesised expression
def level : E → Nat
  | .num _ => 100
  | .paren _ => 100
  | .post _ => POST
  | .index _ _ => POST
  | .member _ _ => POST
  | .call0 _ => POST
  | .call1 _ _ => POST
  | .neg _ => PRE
  | .bin k _ _ => lbp k

def wrap (lv m : Nat) (ts : List Tok) : List Tok := if lv < m then .lp :: ts ++ [.rp] else ts
def nwrap (lv m : Nat) (e : E) : E := if lv < m then .paren e else e

def body : E → List Tok
  | .num n => [.num n]
  | .paren e => .lp :: body e ++ [.rp]
  | .neg e => .neg :: wrap (level lbp e) PRE (body e)
  | .post e => wrap (level lbp e) POST (body e) ++ [.bang]
  | .member e n => wrap (level lbp e) POST (body e) ++ [.dot n]
  | .call0 e => wrap (level lbp e) POST (body e) ++ [.lp, .rp]
  | .index e i => wrap (level lbp e) POST (body e) ++ .lb :: body i ++ [.rb]
  | .call1 e a => wrap (level lbp e) POST (body e) ++ .lp :: body a ++ [.rp]
  | .bin k l r => wrap (level lbp l) (lbp k) (body l) ++ .op k :: wrap (level lbp r) (lbp k + 1) (body r)

/-- the tree the parser returns for `body e`: `e` with a `paren` node wherever `body` puts parentheses -/
def nbody : E → E
  | .num n => .num n
  | .paren e => .paren (nbody e)
  | .neg e => .neg (nwrap (level lbp e) PRE (nbody e))
  | .post e => .post (nwrap (level lbp e) POST (nbody e))
  | .member e n => .member (nwrap (level lbp e) POST (nbody e)) n
  | .call0 e => .call0 (nwrap (level lbp e) POST (nbody e))
  | .index e i => .index (nwrap (level lbp e) POST (nbody e)) (nbody i)
  | .call1 e a => .call1 (nwrap (level lbp e) POST (nbody e)) (nbody a)
  | .bin k l r => .bin k (nwrap (level lbp l) (lbp k) (nbody l)) (nwrap (level lbp r) (lbp k + 1) (nbody r))

def rend (m : Nat) (e : E) : List Tok := wrap (level lbp e) m (body lbp e)
def norm (m : Nat) (e : E) : E := nwrap (level lbp e) m (nbody lbp e)

def strip : E → E
  | .num n => .num n
  | .paren e => strip e
  | .neg e => .neg (strip e)
  | .post e => .post (strip e)
  | .member e n => .member (strip e) n
  | .call0 e => .call0 (strip e)
  | .index e i => .index (strip e) (strip i)
  | .call1 e a => .call1 (strip e) (strip a)
  | .bin k l r => .bin k (strip l) (strip r)

variable {lbp}

theorem strip_nwrap (lv m e) : strip (nwrap lv m e) = strip e := by
  unfold nwrap; split <;> rfl

theorem strip_nbody (e : E) : strip (nbody lbp e) = strip e := by
  induction e <;> simp [nbody, strip, strip_nwrap, *]

theorem ite_some_mono {α : Type} {c : Prop} [Decidable c] {a x y : Option α} {r : α}
    (hxy : x = some r → y = some r) (h : (if c then a else x) = some r) :
    (if c then a else y) = some r := by
  by_cases hc : c
  · rwa [if_pos hc] at h ⊢
  · rw [if_neg hc] at h ⊢; exact hxy h

theorem mono_all {f f' : Nat} (hf : f ≤ f') :
    (∀ {ts r}, primary lbp f ts = some r → primary lbp f' ts = some r) ∧
    (∀ {ts r}, pfx lbp f ts = some r → pfx lbp f' ts = some r) ∧
    (∀ {m ts r}, pratt lbp f m ts = some r → pratt lbp f' m ts = some r) ∧
    (∀ {m l ts r}, loop lbp f m l ts = some r → loop lbp f' m l ts = some r) := by
  induction f generalizing f' with
  | zero => refine ⟨?_, ?_, ?_, ?_⟩ <;> intros <;> simp_all [primary, pfx, pratt, loop]
  | succ f ih =>
    obtain ⟨f', rfl⟩ : ∃ g, f' = g + 1 := ⟨f' - 1, by omega⟩
    obtain ⟨ih1, ih2, ih3, ih4⟩ := ih (Nat.le_of_succ_le_succ hf)
    -- `split at h` goes through the clauses of the definition and reduces the goal's match with them
    refine ⟨fun h => ?_, fun h => ?_, fun h => ?_, fun h => ?_⟩
    · unfold primary at h ⊢
      split at h
      · cases h
      · exact h
      · next heq =>
        cases heq
        split at h
        · next hp => rw [ih3 hp]; exact h
        · cases h
      · cases h
    · unfold pfx at h ⊢
      split at h
      · cases h
      · next heq =>
        cases heq
        split at h
        · next hp => rw [ih3 hp]; exact h
        · cases h
      · next heq _ => cases heq; exact ih1 h
    · unfold pratt at h ⊢
      split at h
      · next hp => rw [ih2 hp]; exact ih4 h
      · cases h
    · unfold loop at h ⊢
      split at h
      · cases h  -- fuel 0
      · next heq =>  -- a binary operator
        cases heq
        refine ite_some_mono (fun hx => ?_) h
        split at hx
        · next hp => rw [ih3 hp]; exact ih4 hx
        · cases hx
      · next heq => cases heq; exact ite_some_mono ih4 h  -- `!`
      · next heq => cases heq; exact ite_some_mono ih4 h  -- `.n`
      · next heq =>  -- `[`
        cases heq
        refine ite_some_mono (fun hx => ?_) h
        split at hx
        · next hp => rw [ih3 hp]; exact ih4 hx
        · cases hx
      · next heq => cases heq; exact ite_some_mono ih4 h  -- `( )`
      · next heq =>  -- `(`
        cases heq
        refine ite_some_mono (fun hx => ?_) h
        split at hx
        · next hp => rw [ih3 hp]; exact ih4 hx
        · cases hx
      · exact h  -- any other token: the loop stops

theorem mono_pratt {f f' m ts r} (h : f ≤ f') : pratt lbp f m ts = some r → pratt lbp f' m ts = some r :=
  (mono_all h).2.2.1

theorem mono_loop {f f' m l ts r} (h : f ≤ f') : loop lbp f m l ts = some r → loop lbp f' m l ts = some r :=
  (mono_all h).2.2.2

/-! The parser without fuel: `Parses` and `Loops` hide it, and each clause of `pratt`/`pfx`/`primary`/`loop` is restated as a
rule about them; the round trip is proved from these rules alone. -/

variable (lbp) in
def Parses (m : Nat) (ts : List Tok) (res : E × List Tok) : Prop := ∃ f, pratt lbp f m ts = some res

variable (lbp) in
def Loops (m : Nat) (l : E) (ts : List Tok) (res : E × List Tok) : Prop :=
  ∃ f, loop lbp f m l ts = some res

section rules
variable {m m' : Nat} {l l' e : E} {r r' ts : List Tok} {res res' : E × List Tok}

theorem Parses.and_loops : Parses lbp m ts res → Loops lbp m' l r res' →
    ∃ f, pratt lbp f m ts = some res ∧ loop lbp f m' l r = some res'
  | ⟨f1, h1⟩, ⟨f2, h2⟩ =>
    ⟨max f1 f2, mono_pratt (Nat.le_max_left f1 f2) h1, mono_loop (Nat.le_max_right f1 f2) h2⟩

theorem stops_mono {a b} (h : a ≤ b) (hs : stops lbp a ts) : stops lbp b ts := by
  unfold stops at hs ⊢
  split at hs <;> first | trivial | omega

theorem Loops.stop (hs : stops lbp m r) : Loops lbp m l r (l, r) := by
  refine ⟨1, ?_⟩
  unfold loop
  -- `contradiction`: the fuel-0 clause against fuel 1; `if_pos hs`: the six clauses with a token at the head, where `stops`
  -- unfolds to the guard of the `if`; `rfl`: the catch-all clause
  split <;> first | rfl | exact if_pos hs | contradiction

theorem Loops.op {k rt} (hk : ¬ lbp k < m) (hp : Parses lbp (lbp k + 1) r (rt, r'))
    (hl : Loops lbp m (.bin k l rt) r' res) : Loops lbp m l (.op k :: r) res :=
  have ⟨f, h1, h2⟩ := hp.and_loops hl
  ⟨f + 1, by simp [loop, hk, h1, h2]⟩

theorem Loops.bang (hk : ¬ POST < m) : Loops lbp m (.post l) r res → Loops lbp m l (.bang :: r) res
  | ⟨f, h⟩ => ⟨f + 1, by simp [loop, hk, h]⟩

theorem Loops.dot {n} (hk : ¬ POST < m) : Loops lbp m (.member l n) r res → Loops lbp m l (.dot n :: r) res
  | ⟨f, h⟩ => ⟨f + 1, by simp [loop, hk, h]⟩

theorem Loops.call0 (hk : ¬ POST < m) : Loops lbp m (.call0 l) r res → Loops lbp m l (.lp :: .rp :: r) res
  | ⟨f, h⟩ => ⟨f + 1, by simp [loop, hk, h]⟩

theorem Loops.lb {i} (hk : ¬ POST < m) (hp : Parses lbp 0 r (i, .rb :: r'))
    (hl : Loops lbp m (.index l i) r' res) : Loops lbp m l (.lb :: r) res :=
  have ⟨f, h1, h2⟩ := hp.and_loops hl
  ⟨f + 1, by simp [loop, hk, h1, h2]⟩

theorem pratt_rp (f m : Nat) (r : List Tok) : pratt lbp f m (.rp :: r) = none := by
  -- `pratt` calls `pfx`, that `primary`: the clause of `primary` that refuses `)` is reached with fuel 3; below, a `0` clause answers
  cases f with
  | zero => rfl
  | succ f =>
    cases f with
    | zero => rfl
    | succ f => cases f <;> rfl

/-- no side condition "`r` does not start with `)`" (the `( )` clause comes first in `loop`): such an `r` does not parse -/
theorem Loops.call1 {a} (hk : ¬ POST < m) (hp : Parses lbp 0 r (a, .rp :: r'))
    (hl : Loops lbp m (.call1 l a) r' res) : Loops lbp m l (.lp :: r) res := by
  have ⟨f, h1, h2⟩ := hp.and_loops hl
  refine ⟨f + 1, ?_⟩
  rw [loop]
  · simp [hk, h1, h2]
  · rintro r'' rfl
    rw [pratt_rp] at h1
    cases h1

-- fuel: `pratt (f+3)` calls `pfx (f+2)`, that `primary (f+1)`, and the loop then runs at `f+2`; the prefix operator is
-- consumed in `pfx` already, hence `f+2` in `Parses.neg`
theorem Parses.num {n} : Loops lbp m (.num n) r res → Parses lbp m (.num n :: r) res
  | ⟨f, h⟩ => ⟨f + 3, by simp [pratt, pfx, primary, mono_loop (Nat.le_add_right f 2) h]⟩

theorem Parses.neg (hp : Parses lbp PRE r (e, r')) (hl : Loops lbp m (.neg e) r' res) :
    Parses lbp m (.neg :: r) res :=
  have ⟨f, h1, h2⟩ := hp.and_loops hl
  ⟨f + 2, by simp [pratt, pfx, h1, mono_loop (Nat.le_succ f) h2]⟩

theorem Parses.paren (hp : Parses lbp 0 r (e, .rp :: r')) (hl : Loops lbp m (.paren e) r' res) :
    Parses lbp m (.lp :: r) res :=
  have ⟨f, h1, h2⟩ := hp.and_loops hl
  ⟨f + 3, by simp [pratt, pfx, primary, h1, mono_loop (Nat.le_add_right f 2) h2]⟩

end rules

variable (lbp) in
/-- parsing the bare rendering of `e` in front of `rest` comes to the loop with `nbody e` as left operand and `rest`
    to go, provided nothing at the head of `rest` binds tighter than `e` itself -/
def Resumes (e : E) : Prop :=
  ∀ m rest res, m ≤ level lbp e → stops lbp (level lbp e + 1) rest →
    Loops lbp m (nbody lbp e) rest res → Parses lbp m (body lbp e ++ rest) res

section
variable {e : E} {m : Nat} {rest : List Tok} {res : E × List Tok}

/-- in front of a closing token the bare rendering parses at power 0 -/
theorem Resumes.closed (h : Resumes lbp e) (hs : ∀ m, stops lbp m rest) :
    Parses lbp 0 (body lbp e ++ rest) (nbody lbp e, rest) :=
  h 0 rest _ (Nat.zero_le _) (hs _) (.stop (hs _))

theorem Resumes.paren (h : Resumes lbp e) (hl : Loops lbp m (.paren (nbody lbp e)) rest res) :
    Parses lbp m (.lp :: body lbp e ++ [.rp] ++ rest) res := by
  rw [List.append_assoc, List.cons_append]
  exact .paren (h.closed fun _ => trivial) hl

/-- what `Resumes` says of `body e`, for `rend mm e`: the rendering in a context of power `mm`, parenthesised if need be -/
theorem Resumes.rend (h : Resumes lbp e) {mm : Nat} (hm : m ≤ mm) (hs : stops lbp (mm + 1) rest)
    (hl : Loops lbp m (norm lbp mm e) rest res) : Parses lbp m (rend lbp mm e ++ rest) res := by
  unfold PrattCore.rend wrap
  unfold norm nwrap at hl
  split
  · next hlv => rw [if_pos hlv] at hl; exact h.paren hl
  · next hlv => rw [if_neg hlv] at hl; exact h m rest res (by omega) (stops_mono (by omega) hs) hl

end

/-- what follows a prefix expression: a binary operator stops at `PRE` by `hl`, and no postfix token is there (`PRE < POST`) -/
theorem stops_PRE (hl : ∀ k, lbp k < PRE) {rest} (hs : stops lbp (PRE + 1) rest) : stops lbp PRE rest := by
  unfold stops at hs ⊢
  split at hs <;> first | trivial | exact hl _ | (simp only [PRE, POST] at hs ⊢; omega)

theorem resumes (hl : ∀ k, lbp k < PRE) (e : E) : Resumes lbp e := by
  induction e with
  | num n => exact fun m rest res _ _ h => .num h
  | paren e ih => exact fun m rest res _ _ h => ih.paren h
  | neg e ih =>
    intro m rest res hm hs h
    exact .neg (ih.rend (Nat.le_refl _) hs (.stop (stops_PRE hl hs))) h
  | post e ih =>
    intro m rest res hm hs h
    rw [body, List.append_assoc]
    -- `Nat.lt_succ_self _ : stops lbp (POST + 1) (.bang :: _)`, which unfolds to `POST < POST + 1`; likewise in the cases below
    exact ih.rend hm (Nat.lt_succ_self _) (.bang (Nat.not_lt.2 hm) h)
  | member e n ih =>
    intro m rest res hm hs h
    rw [body, List.append_assoc]
    exact ih.rend hm (Nat.lt_succ_self _) (.dot (Nat.not_lt.2 hm) h)
  | call0 e ih =>
    intro m rest res hm hs h
    rw [body, List.append_assoc]
    exact ih.rend hm (Nat.lt_succ_self _) (.call0 (Nat.not_lt.2 hm) h)
  | index e i ihe ihi =>
    intro m rest res hm hs h
    rw [body, List.append_assoc, List.cons_append, List.append_assoc]
    exact ihe.rend hm (Nat.lt_succ_self _) (.lb (Nat.not_lt.2 hm) (ihi.closed fun _ => trivial) h)
  | call1 e a ihe iha =>
    intro m rest res hm hs h
    rw [body, List.append_assoc, List.cons_append, List.append_assoc]
    exact ihe.rend hm (Nat.lt_succ_self _) (.call1 (Nat.not_lt.2 hm) (iha.closed fun _ => trivial) h)
  | bin k l r ihl ihr =>
    intro m rest res hm hs h
    rw [body, List.append_assoc, List.cons_append]
    -- the right operand is rendered at `lbp k + 1`, and `hs` is `stops lbp (lbp k + 1) rest`: the loop of the inner `pratt`, at
    -- that power, stops on `rest`; the outer loop goes on with `h`
    exact ihl.rend hm (Nat.lt_succ_self _)
      (.op (Nat.not_lt.2 hm) (ihr.rend (Nat.le_refl _) (stops_mono (Nat.le_succ _) hs) (.stop hs)) h)

variable (lbp)

/-- the parser returns the tree with exactly the parentheses the rendering put in -/
theorem parses_rend (hl : ∀ k, lbp k < PRE) (e : E) (m : Nat) (rest : List Tok) (hs : stops lbp m rest) :
    Parses lbp m (rend lbp m e ++ rest) (norm lbp m e, rest) :=
  (resumes hl e).rend (Nat.le_refl _) (stops_mono (Nat.le_succ _) hs) (.stop hs)

/-- Round trip: parsing the minimal-parenthesis rendering of any tree, in any context whose
    continuation cannot extend the expression, returns a tree equal to it modulo `paren`. -/
theorem roundtrip (hl : ∀ k, lbp k < PRE) (e : E) (m : Nat) (rest : List Tok)
    (hs : stops lbp m rest) :
    ∃ f e', pratt lbp f m (rend lbp m e ++ rest) = some (e', rest) ∧ strip e' = strip e :=
  have ⟨f, h⟩ := parses_rend lbp hl e m rest hs
  ⟨f, _, h, by rw [norm, strip_nwrap, strip_nbody]⟩
end proofs


end BlochVerif.Parse.PrattCore
